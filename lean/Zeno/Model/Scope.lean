import Zeno.Model.Stages
/-!
The scope tests of `preprocess()` as translated from the source (`Gen.Stages.facts.scopeGuards`, tools/facts/sec_scope.go): one guard per
place where the per-item loop rejects an item because of the include / exclude configuration. An item is rejected when some guard holds.
-/
namespace Zeno.Model.Scope
open Zeno Zeno.Model.Stages

def _root_.Zeno.SCond.eval (v : SAtom → Bool) : SCond → Bool
  | .atom a => v a
  | .not c => !c.eval v
  | .and a b => a.eval v && b.eval v
  | .or a b => a.eval v || b.eval v
  | .unknown _ => true            -- a test the translator does not understand may reject anything

def rejectsBy (gs : List SCond) (v : SAtom → Bool) : Bool := gs.any (fun g => g.eval v)

/-- nothing in the condition is opaque to the translator -/
def _root_.Zeno.SCond.known : SCond → Bool
  | .atom _ => true
  | .not c => c.known
  | .and a b => a.known && b.known
  | .or a b => a.known && b.known
  | .unknown _ => false

/-- the operator's scope as the property states it: with include filters, none of them matches; or an exclude host / string occurs; or an
exclusion regex matches -/
def specRejects (v : SAtom → Bool) : Bool :=
  ((v .anyIncludeHosts || v .anyIncludeStrings) && !v .hostInInclude && !v .textInInclude) ||
  v .hostInExclude || v .textInExclude || v .regexExcluded

/-- what the atoms mean for a configuration and a normalised URL -/
def atomsOf (cfg : Cfg) (r : NormRes) : SAtom → Bool
  | .anyIncludeHosts => !cfg.includeHosts.isEmpty
  | .anyIncludeStrings => !cfg.includeStrings.isEmpty
  | .hostInInclude => containsAny r.host cfg.includeHosts
  | .textInInclude => containsAny r.canon cfg.includeStrings
  | .hostInExclude => containsAny r.host cfg.excludeHosts
  | .textInExclude => containsAny r.canon cfg.excludeStrings
  | .regexExcluded => cfg.regexExcluded.contains r.canon

def valuation (b1 b2 b3 b4 b5 b6 b7 : Bool) : SAtom → Bool
  | .anyIncludeHosts => b1 | .anyIncludeStrings => b2 | .hostInInclude => b3 | .textInInclude => b4
  | .hostInExclude => b5 | .textInExclude => b6 | .regexExcluded => b7

theorem valuation_eta (v : SAtom → Bool) :
    v = valuation (v .anyIncludeHosts) (v .anyIncludeStrings) (v .hostInInclude) (v .textInInclude) (v .hostInExclude) (v .textInExclude)
      (v .regexExcluded) := by
  funext a; cases a <;> rfl

theorem passes_iff (cfg : Cfg) (r : NormRes) : passesFilters cfg r = !specRejects (atomsOf cfg r) := by
  simp only [passesFilters, specRejects, atomsOf, Bool.not_or, Bool.not_and, Bool.not_not, Bool.or_assoc, Bool.and_assoc]

end Zeno.Model.Scope

/-! ### the tests of `postprocessItem()` that complete an archived item without extracting anything (`Gen.Stages.facts.postEarlyGuards`) -/
namespace Zeno.Model.Scope
open Zeno Zeno.Model.Stages

/-- what the tests look at -/
structure PEnv where
  domainsCrawl : Bool
  depth : Int               -- GetDepthWithoutRedirections()
  html : Bool               -- the sniffed MIME type contains "html"
  disableAssets : Bool
  maxHops : Nat
  body : Bool := true       -- the body was kept for post-processing
  hops : Nat := 0           -- the page's hops

def _root_.Zeno.PAtom.eval (e : PEnv) : PAtom → Bool
  | .domainsCrawl => e.domainsCrawl
  | .depthCmp op n => op.eval e.depth n
  | .mimeHtml => e.html
  | .disableAssets => e.disableAssets
  | .maxHopsCmp op n => op.eval e.maxHops n
  | .hasBody => e.body
  | .hopsCmpMaxHops op => op.eval e.hops e.maxHops

def _root_.Zeno.PCond.eval (e : PEnv) : PCond → Bool
  | .const b => b
  | .atom a => a.eval e
  | .not c => !c.eval e
  | .and a b => a.eval e && b.eval e
  | .or a b => a.eval e || b.eval e
  | .unknown _ => true

def completesEarly (gs : List PCond) (e : PEnv) : Bool := gs.any (fun g => g.eval e)

/-- nothing in the condition is opaque to the translator -/
def _root_.Zeno.PCond.known : PCond → Bool
  | .const _ => true
  | .atom _ => true
  | .not c => c.known
  | .and a b => a.known && b.known
  | .or a b => a.known && b.known
  | .unknown _ => false

/-- the same decision as the model's `postAct` takes it (its second to fourth branch) -/
def modelCompletesEarly (S : SF) (e : PEnv) : Bool :=
  (!e.domainsCrawl && S.depthCutOp.eval e.depth (S.depthCut : Int)) ||
  (!e.domainsCrawl && e.depth == 1 && e.html) ||
  (e.disableAssets && !e.domainsCrawl && (S.disableAssetsRule == "always" || e.maxHops == 0))

end Zeno.Model.Scope
