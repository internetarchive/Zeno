import Zeno.Proofs.Queue
import Zeno.Proofs.Warc
import Zeno.Proofs.Consumer
import Zeno.Gen.Queue
import Zeno.Gen.Archiver
/-!
# C04 — a stopped or killed job resumes all unfinished seeds; finished implies captured

Statements with short proofs; the longer ones are in `Proofs/Queue`, `Warc`, `Consumer`.
`Q` / `A` = facts regenerated from source/lq (SQL statements, transaction
boundaries, what `Init` and `Stop` reset), finisher.go and archiver.go. The local queue table is the
model of Model/Queue.lean (rows FRESH / CLAIMED / deleted); a kill simply drops all volatile state
(reactor table, consumer buffer, finish batches) — the table, being one SQLite transaction per
operation, is whatever the last committed operation left. The event log is that of Model/Warc.lean.
-/
namespace Zeno.Props.C04
open Zeno.Model.Queue Zeno.Model.Warc

abbrev Q : Zeno.Model.Queue.Facts := Zeno.Gen.Queue.facts
abbrev A : Zeno.Model.Warc.AF := Zeno.Gen.Archiver.facts

theorem facts_ok : (okLQ Q && Q.lqInitReclaims && okOrder A Q) = true := by decide

/-- **Nothing stays stranded**: whatever the table looks like when the process stops or dies — any mix
of FRESH and CLAIMED rows left by any history of adds, claims, deletes and resets — after the job is
started again every remaining row is FRESH, i.e. will be handed out again. -/
theorem c04_no_stranded_after_restart (tbl : List Row) : ∀ r ∈ lqInit Q tbl, r.status = .fresh :=
  restart_all_fresh Q (by decide) tbl

/-- … and restarting neither loses nor duplicates rows (ids, values, via and hops are untouched) -/
theorem c04_restart_keeps_rows (tbl : List Row) :
    (lqInit Q tbl).map (fun r => (r.id, r.value, r.via, r.hops)) = tbl.map (fun r => (r.id, r.value, r.via, r.hops)) := by
  have h : Q.lqInitReclaims = true := by decide
  simp [lqInit, h, List.map_map, Function.comp_def]

/-- Without the reset at `Init` (pinned tree, defect D9) a claimed row stays claimed across a restart. -/
theorem c04_d9_counterexample :
    let tbl : List Row := [{ id := "s1", value := "http://site.example/1", via := "", hops := 0, status := .claimed }]
    (lqInit { Q with lqInitReclaims := false } tbl).any (fun r => r.status == .claimed) = true := by decide

/-- **Finished implies captured**, also after a crash at any point: in every admissible log of durable /
observable events (synchronous WARC writing) and in every prefix of it, a seed's queue row is deleted
— and the seed reported finished — only after every exchange fetched for it was written to the WARC. -/
theorem c04_finished_implies_captured (fetched : Nat → List Nat) (a b : List Ev) (s : Nat) (e : Ev)
    (he : e = .deleted s ∨ e = .notify s) (h : admissible A Q true fetched [] (a ++ e :: b) = true) :
    ∀ u ∈ fetched s, Ev.written u ∈ a :=
  finished_implies_captured (by decide) he h

/-- what is on disk after a crash is itself an admissible log (so the theorem above applies to it) -/
theorem c04_crash_prefix (fetched : Nat → List Nat) (a b : List Ev)
    (h : admissible A Q true fetched [] (a ++ b) = true) : admissible A Q true fetched [] a = true :=
  admissible_prefix a b h

/-- non-vacuity: a concrete admissible log -/
example : admissible A Q true (fun s => if s = 1 then [10, 11] else []) []
    [.written 10, .archived 10, .written 11, .archived 11, .notify 1, .deleted 1] = true := by decide

/-! ## every URL the queue hands out is crawled -/
open Zeno.Model.Consumer in
theorem consumer_facts_ok : okConsumer Q = true := by decide

open Zeno.Model.Consumer in
/-- **Handed out means crawled.** Of the URLs the consumer takes from the claim buffer — any number, in any order, parsable or
not — every one whose text can be parsed is inserted into the reactor, whatever came before it; only an unparsable URL is
sent to the finish channel without a fetch; and every URL gets exactly one of the two fates. -/
theorem c04_claimed_url_is_crawled (urls : List Claimed) (flag : Bool) :
    (∀ u ∈ urls, u.parsable = true → (u.id, Fate.inserted) ∈ consume Q flag urls) ∧
    (∀ x ∈ consume Q flag urls, x.2 = Fate.finishedUnfetched → ∃ u ∈ urls, u.id = x.1 ∧ u.parsable = false) ∧
    (consume Q flag urls).map Prod.fst = urls.map (·.id) := by
  rw [consume_eq Q consumer_facts_ok]
  refine ⟨?_, ?_, ?_⟩
  · exact fun u hu hp => List.mem_map.2 ⟨u, hu, by simp [hp]⟩
  · rw [List.forall_mem_map]
    exact fun u hu hf => ⟨u, hu, rfl, by simpa using hf⟩
  · simp [List.map_map, Function.comp_def]

open Zeno.Model.Consumer in
/-- with the flag declared outside the loop (seeded change C04-1) one malformed URL sends every later URL of the run to the
finish channel unfetched -/
theorem c04_hoisted_flag_counterexample :
    consume { Q with lqDiscardFlagScope := "hoisted" } false [⟨"bad", false⟩, ⟨"good", true⟩] =
      [("bad", .finishedUnfetched), ("good", .finishedUnfetched)] := by decide

end Zeno.Props.C04
