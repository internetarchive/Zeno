import Zeno.Proofs.Stats
import Zeno.Gen.Stats
/-!
# C17 — operational counters are exact under concurrency

Statements, with short proofs from `Proofs/Stats`.
`G` holds the micro-op programs *translated* from internal/pkg/stats on every run
(one list per method of `counter`, `mean`, `rate`), the lock discipline of `rateBucket`, the wiring
of the exported entry points and the gauge pattern of the stage workers. Goroutines are lists of
calls; `run … sched` executes micro-ops in the order the schedule `sched` picks threads — any
number of threads, any interleaving. Values are `uint64`: equalities are modulo `M = 2^64`.
-/
namespace Zeno.Props.C17
open Zeno.Model.Stats

abbrev G : Facts := Zeno.Gen.Stats.facts

/-- what the theorems need from the translated programs (checked by evaluation) -/
def ok (F : Facts) : Bool :=
  -- rate: `total` is written only by the atomic add of `incr`; incr adds its argument
  addOnlyT "total" F.rate_incr && addOnlyT "total" F.rate_get && addOnlyT "total" F.rate_getTotal &&
  addOnlyT "total" F.rate_reset && F.rate_incr.contains (.add "total" .arg) &&
  (F.rate_incr.filter (TInstr.writesT "total")).length == 1 &&
  -- counter: incr adds, decr subtracts (two's complement), get does not write
  F.counter_incr == [.add "count" .arg] && F.counter_decr == [.add "count" .negArg] &&
  addOnlyT "count" F.counter_get &&
  -- mean: add bumps count by one and sum by the value, atomically each; get does not write
  F.mean_add == [.add "count" (.const 1), .add "sum" .arg] && addOnlyT "count" F.mean_get && addOnlyT "sum" F.mean_get &&
  -- per-status buckets: every method body is under the mutex, missing keys are created under it
  F.rateBucketAllLocked && F.rateBucketIncrShape &&
  -- wiring of the entry points the pipeline calls
  F.wiring.contains "URLsCrawledIncr=URLsCrawled.incr(1)" && F.wiring.contains "SeedsFinishedIncr=SeedsFinished.incr(1)" &&
  F.wiring.contains "HTTPReturnCodesIncr=HTTPReturnCodes.incr(key,1)" &&
  F.wiring.contains "URLsCrawledGet=URLsCrawled.get()" && F.wiring.contains "SeedsFinishedGet=SeedsFinished.get()" &&
  F.wiring.contains "PreprocessorRoutinesIncr=PreprocessorRoutines.incr(1)" &&
  F.wiring.contains "PreprocessorRoutinesDecr=PreprocessorRoutines.decr(1)" &&
  F.wiring.contains "ArchiverRoutinesIncr=ArchiverRoutines.incr(1)" && F.wiring.contains "ArchiverRoutinesDecr=ArchiverRoutines.decr(1)" &&
  F.wiring.contains "PostprocessorRoutinesIncr=PostprocessorRoutines.incr(1)" &&
  F.wiring.contains "PostprocessorRoutinesDecr=PostprocessorRoutines.decr(1)" &&
  F.wiring.contains "MeanHTTPRespTimeAdd=MeanHTTPResponseTime.add(uint64(value.Milliseconds()))" &&
  -- gauges: Incr when the worker starts, deferred Decr
  F.preprocessorGaugeIncrDeferDecr && F.archiverGaugeIncrDeferDecr && F.postprocessorGaugeIncrDeferDecr

theorem facts_ok : ok G = true := by decide +kernel

/-- events a call contributes to the total of a rate metric -/
def RateCall.events : RateCall → Nat
  | .incr n => n % M
  | _ => 0

theorem rate_addOnly (x : RateCall) : addOnly "total" (x.code G) = true := by
  cases x <;> exact (addOnly_inst ..).trans (by decide)

theorem rate_adds (x : RateCall) : addsTo "total" (x.code G) = RateCall.events x := by
  cases x with
  | incr n => exact Nat.zero_add _   -- `incr n` is [add count, add total]: 0 + n % M
  | _ => rfl

/-- **Totals are exact** (URLs crawled, seeds finished, each per-status-code count is such a metric):
after any concurrent burst of `incr` / `get` / `getTotal` / `reset` calls from any number of
goroutines, under every interleaving, the total equals the number of events. -/
theorem c17_totals_exact (ws : List (List RateCall)) (init : Cells) (sched : List Nat)
    (hf : (run { cells := init, threads := threadsOf (RateCall.code G) ws } sched).finished = true) :
    (run { cells := init, threads := threadsOf (RateCall.code G) ws } sched).cells "total" % M =
      (init "total" + (ws.map (fun calls => (calls.map RateCall.events).sum)).sum) % M := by
  simpa [rate_adds] using calls_exact rate_addOnly hf

/-- what a call contributes to a gauge / counter -/
def CounterCall.delta : CounterCall → Nat
  | .incr n => n % M
  | .decr n => (M - n % M) % M
  | .get => 0

theorem counter_addOnly (x : CounterCall) : addOnly "count" (x.code G) = true := by
  cases x <;> exact (addOnly_inst ..).trans (by decide)

theorem counter_adds (x : CounterCall) : addsTo "count" (x.code G) = CounterCall.delta x := by
  cases x <;> rfl

/-- counters: value = initial + increments − decrements (mod 2^64), for every interleaving -/
theorem c17_counter_exact (ws : List (List CounterCall)) (init : Cells) (sched : List Nat)
    (hf : (run { cells := init, threads := threadsOf (CounterCall.code G) ws } sched).finished = true) :
    (run { cells := init, threads := threadsOf (CounterCall.code G) ws } sched).cells "count" % M =
      (init "count" + (ws.map (fun calls => (calls.map CounterCall.delta).sum)).sum) % M := by
  simpa [counter_adds] using calls_exact counter_addOnly hf

/-- `live` workers that have started, `exited` workers that have started and returned -/
def workers (live exited : Nat) : List (List CounterCall) :=
  List.replicate live [.incr 1] ++ List.replicate exited [.incr 1, .decr 1]

/-- **Worker gauges equal the number of live workers** — `live` workers have started (Incr) and
`exited` workers have started and finished (Incr, deferred Decr): the gauge reads `live`; in
particular **zero after stop** (`live = 0`). -/
theorem c17_gauge_eq_live_workers (live exited : Nat) (hl : live < M) (sched : List Nat)
    (hf : (run { cells := fun _ => 0, threads := threadsOf (CounterCall.code G) (workers live exited) } sched).finished = true) :
    (run { cells := fun _ => 0, threads := threadsOf (CounterCall.code G) (workers live exited) } sched).cells "count" % M
      = live := by
  -- a live worker has added 1, an exited one 1 + (M - 1) = M
  have h1 : ([CounterCall.incr 1].map CounterCall.delta).sum = 1 := by decide
  have h2 : ([CounterCall.incr 1, .decr 1].map CounterCall.delta).sum = M := by decide
  rw [c17_counter_exact _ _ _ hf, workers]
  simp only [List.map_append, List.map_replicate, List.sum_append, List.sum_replicate_nat, h1, h2]
  rw [Nat.zero_add, Nat.mul_one, Nat.add_mul_mod_self_right, Nat.mod_eq_of_lt hl]

def MeanCall.cnt : MeanCall → Nat | .add _ => 1 | .get => 0
def MeanCall.val : MeanCall → Nat | .add v => v % M | .get => 0

theorem mean_addOnly_count (x : MeanCall) : addOnly "count" (x.code G) = true := by
  cases x <;> exact (addOnly_inst ..).trans (by decide)
theorem mean_addOnly_sum (x : MeanCall) : addOnly "sum" (x.code G) = true := by
  cases x <;> exact (addOnly_inst ..).trans (by decide)
theorem mean_adds_count (x : MeanCall) : addsTo "count" (x.code G) = MeanCall.cnt x := by
  cases x <;> rfl
theorem mean_adds_sum (x : MeanCall) : addsTo "sum" (x.code G) = MeanCall.val x := by
  cases x with
  | add v => exact Nat.zero_add _
  | get => rfl

/-- **Means equal sum over count at quiescence**: after any burst of `add` / `get` calls the count
cell holds the number of samples and the sum cell their sum (so `get` returns sum / count). -/
theorem c17_mean_exact_at_quiescence (ws : List (List MeanCall)) (init : Cells) (sched : List Nat)
    (hf : (run { cells := init, threads := threadsOf (MeanCall.code G) ws } sched).finished = true) :
    let s := run { cells := init, threads := threadsOf (MeanCall.code G) ws } sched
    s.cells "count" % M = (init "count" + (ws.map (fun calls => (calls.map MeanCall.cnt).sum)).sum) % M ∧
    s.cells "sum" % M = (init "sum" + (ws.map (fun calls => (calls.map MeanCall.val).sum)).sum) % M := by
  constructor
  · simpa [mean_adds_count] using calls_exact mean_addOnly_count hf
  · simpa [mean_adds_sum] using calls_exact mean_addOnly_sum hf

/-- a non-atomic increment (load, then store of load + step) *does* lose updates: two threads,
schedule 0 1 0 1 — this is what the translator would emit for `c.count += step` -/
theorem c17_nonatomic_loses_updates :
    (run { cells := fun _ => 0, threads := [{ code := [.rawRead "count", .rawWrite "count" 1] },
        { code := [.rawRead "count", .rawWrite "count" 1] }] } [0, 1, 0, 1]).cells "count" = 1 := by
  decide

/-- non-vacuity: a concrete interleaved burst on the translated programs -/
example : (run { cells := fun _ => 0, threads := threadsOf (RateCall.code G) [[.incr 1, .get, .incr 1], [.incr 1, .reset]] }
    [1, 0, 0, 1, 0, 1, 0, 0, 0, 0, 1, 0, 0, 1, 0, 0, 1]).cells "total" = 3 := by
  decide +kernel

end Zeno.Props.C17
