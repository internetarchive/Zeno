import Zeno.Proofs.Stages
import Zeno.Model.Scope
import Zeno.Gen.Stages
import Zeno.Gen.Item
import Zeno.Gen.Archiver
/-!
# C05 — no request is ever sent for a URL outside the operator's scope

The statements, each proved in a few lines from `Proofs/`. `S`, `I` and `Gen.Archiver.facts` = facts regenerated from preprocessor.go, config.go, item*.go and
archiver.go. `preCore` (Model/Stages.lean) is `preprocess()` up to its final loop together with the
list of node ids that final loop attaches a request to; `norm` is the URL normaliser as an oracle
(its own guarantees — http/https, dotted non-loopback host — are C09's `c09_shape`);
`passesFilters` is the operator's scope: include filters (if any) then exclude host / string / regex.
-/
namespace Zeno.Props.C05
open Zeno.Model.Item Zeno.Model.Stages

abbrev S : SF := Zeno.Gen.Stages.facts
abbrev I : IF := Zeno.Gen.Item.facts

/-- the shapes of `preprocess` the model mirrors (the include / exclude tests themselves are translated: `c05_scope_tests_translated`), the default excluded hosts, and the only fetch site
fetching nothing but PreProcessed nodes -/
theorem facts_ok :
    (S.preWorksAtMaxDepth && S.prePanicsOnNonFresh && S.preSeedNormErrorFails && S.preChildNormErrorRemoves &&
     S.preRejectRemovesChildCompletesSeed &&
     S.preEmptyPathChildRemoved && S.preDedupeThenSeencheckThenRequests && S.preNoWorkCompletesSeed && S.preOnlyFreshGetRequests &&
     S.defaultExcludedHosts == ["archive.org", "archive-it.org"] &&
     Zeno.Gen.Archiver.facts.onlyPreProcessedFetched && Zeno.Gen.Archiver.facts.workAtMaxDepth) = true := by decide +kernel

/-- **No request outside the scope**, in every tree position (seed, redirect target, asset): for every
seed tree, configuration, normaliser and seen-store, each node that `preprocess` gives a request to was
accepted by the normaliser and passes the include / exclude filters with its normalised URL. -/
theorem c05_request_only_in_scope (cfg : Cfg) (norm : String → Option NormRes) (seen : Seen) (t : Tree) :
    ∀ x ∈ (preCore S I cfg norm seen t).2.2.1, ∃ r, norm x = some r ∧ passesFilters cfg r = true := by
  match t with
  | .node i .nil => exact requests_in_scope_seed S I cfg norm seen i
  | .node i (.cons c f) => exact requests_in_scope S I cfg norm seen _ (Nat.succ_pos _)

/-- what the scope means: with include filters, one of them must match (host or whole URL); no exclude
host / string may occur in it and no exclusion regex may match it -/
theorem c05_scope_meaning (cfg : Cfg) (r : NormRes) (h : passesFilters cfg r = true) :
    ((cfg.includeHosts = [] ∧ cfg.includeStrings = []) ∨ containsAny r.host cfg.includeHosts = true ∨
      containsAny r.canon cfg.includeStrings = true) ∧
    containsAny r.host cfg.excludeHosts = false ∧ containsAny r.canon cfg.excludeStrings = false ∧
    r.canon ∉ cfg.regexExcluded := by
  simpa only [passesFilters, Bool.and_eq_true, Bool.or_eq_true, Bool.not_eq_true', Bool.or_eq_false_iff,
    List.isEmpty_iff, List.contains_eq_mem, decide_eq_false_iff_not, or_assoc, and_assoc] using h

/-! ### the scope tests as written now

`S.scopeGuards` = the places where the per-item loop of `preprocess()` rejects an item because of the include / exclude configuration,
translated from the source on every run (the conjunction of the enclosing conditions of each). -/

/-- every test was understood by the translator, and the translated tests reject exactly what the property says is out of scope, for **every** valuation of what they look at (are include
filters configured; does the host / text contain an include or exclude entry; does an exclusion regex match) … -/
theorem c05_scope_tests_known : (S.scopeGuards.all SCond.known && !S.scopeGuards.isEmpty) = true := by decide

open Zeno.Model.Scope in
theorem c05_scope_tests_translated (v : SAtom → Bool) : rejectsBy S.scopeGuards v = specRejects v := by
  have h : ∀ b1 b2 b3 b4 b5 b6 b7, rejectsBy S.scopeGuards (valuation b1 b2 b3 b4 b5 b6 b7) = specRejects (valuation b1 b2 b3 b4 b5 b6 b7) := by
    decide +kernel
  rw [valuation_eta v]
  exact h _ _ _ _ _ _ _

open Zeno.Model.Scope in
/-- … so the model's scope predicate, which `c05_request_only_in_scope` is about, is the negation of "some translated test rejects" -/
theorem c05_scope_is_the_code (cfg : Cfg) (r : NormRes) : passesFilters cfg r = !rejectsBy S.scopeGuards (atomsOf cfg r) := by
  rw [c05_scope_tests_translated, passes_iff]

/-- the two archive hosts are excluded by default -/
theorem c05_default_excludes : S.defaultExcludedHosts = ["archive.org", "archive-it.org"] := rfl

/-- non-vacuity: a seed with three assets, one excluded, one rejected by the normaliser -/
example :
    let t : Tree := .node { id := "s", url := "http://site.example/", st := .gotChildren }
      (.cons (.node { id := "a", url := "", st := .fresh } .nil)
       (.cons (.node { id := "b", url := "", st := .fresh } .nil)
        (.cons (.node { id := "c", url := "", st := .fresh } .nil) .nil)))
    let norm : String → Option NormRes := fun id =>
      if id == "a" then some { canon := "http://site.example/a.png", host := "site.example", path := "/a.png" }
      else if id == "b" then some { canon := "http://archive.org/x", host := "archive.org", path := "/x" }
      else none
    (preCore S I { excludeHosts := ["archive.org"] } norm [] t).2.2.1 = ["a"] := by decide +kernel

end Zeno.Props.C05
