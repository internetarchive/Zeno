import Zeno.Proofs.Html
import Zeno.Gen.Html
/-!
# C07 — page requisites in standard HTML attributes are all fetched, correctly resolved

Statements, with short proofs from `Proofs/Html`. `H` = facts regenerated from extractor/html.go. `htmlAssets` /
`htmlOutlinks` (Model/Html.lean) work on the parsed document (the HTML parser is an oracle); they return the references as
written. Resolving them against the page URL is done by the normaliser when the children are preprocessed (C09 proves its
properties; the end of the chain — "is requested, with the browser's absolute URL" — is checked on generated documents
through the real stages).
-/
namespace Zeno.Props.C07
open Zeno.Model.Html

abbrev H : HF := Zeno.Gen.Html.facts

theorem facts_ok :
    (H.guard_a && H.guard_img && H.guard_video && H.guard_audio && H.guard_style && H.guard_script && H.guard_link && H.guard_meta &&
     H.guard_source && H.imgAttrs && H.srcsetSplit && H.videoAudioSrc && H.scriptSrc && H.linkHrefUnlessAlternate && H.sourceAttrs &&
     H.styleElementURLs && H.styleAttrURLs && H.styleSchemeRelative == "keeps" && H.everyRawAssetReturned && H.anchorAttrs &&
     H.outlinksResolved && H.outlinkGuardA && H.regexes) = true := by decide

/-- **img**: `src`, and every candidate of `srcset`, of every `img` element anywhere in the document (unless the tag is disabled). -/
theorem c07_img (cfg : Cfg) (els : List El) (e : El) (he : e ∈ els) (ht : e.tag = "img") (hen : enabled cfg "img" = true) :
    (∀ v, e.attr "src" = some v → v ∈ htmlAssets H cfg els) ∧
    (∀ v, e.attr "srcset" = some v → ∀ u ∈ srcsetURLs v, u ∈ htmlAssets H cfg els) :=
  ⟨fun _ hv => img_attr he ht hen (.inl rfl) hv, fun _ hv => img_srcset he ht hen (.inl rfl) hv⟩

/-- **script src, video / audio src, source src / srcset**. -/
theorem c07_script_media_source (cfg : Cfg) (els : List El) (e : El) (he : e ∈ els) :
    (e.tag = "script" → enabled cfg "script" = true → ∀ v, e.attr "src" = some v → v ∈ htmlAssets H cfg els) ∧
    (e.tag = "video" → enabled cfg "video" = true → ∀ v, e.attr "src" = some v → v ∈ htmlAssets H cfg els) ∧
    (e.tag = "audio" → enabled cfg "audio" = true → ∀ v, e.attr "src" = some v → v ∈ htmlAssets H cfg els) ∧
    (e.tag = "source" → enabled cfg "source" = true → ∀ v, e.attr "src" = some v → v ∈ htmlAssets H cfg els) ∧
    (e.tag = "source" → enabled cfg "source" = true → ∀ v, e.attr "srcset" = some v → ∀ u ∈ srcsetURLs v, u ∈ htmlAssets H cfg els) :=
  ⟨fun ht hen _ hv => script_src he ht hen hv,
   fun ht hen _ hv => media_src he ht (.inl rfl) hen hv,
   fun ht hen _ hv => media_src he ht (.inr rfl) hen hv,
   fun ht hen _ hv => source_src he ht hen hv,
   fun ht hen _ hv => source_srcset he ht hen (.inl rfl) hv⟩

/-- **link href**, except `rel="alternate"` unless `--capture-alternate-pages`. -/
theorem c07_link (cfg : Cfg) (els : List El) (e : El) (he : e ∈ els) (ht : e.tag = "link") (hen : enabled cfg "link" = true)
    (hrel : cfg.captureAlternate = true ∨ e.attr "rel" ≠ some "alternate") (v : String) (hv : e.attr "href" = some v) :
    v ∈ htmlAssets H cfg els :=
  link_href he ht hen hrel hv

/-- **url(...) in `<style>` elements**: every match is passed on exactly as written, quotes stripped (no rewriting of
scheme-relative references: they are resolved against the page like every other reference). -/
theorem c07_style_element (cfg : Cfg) (els : List El) (e : El) (he : e ∈ els) (ht : e.tag = "style") (hen : enabled cfg "style" = true)
    (m : List Char) (hm : m ∈ urlFuncs e.text.length e.text.toList) (hwp : startsWith (String.ofList (stripQuotes m)) "#wp-" = false) :
    String.ofList (stripQuotes m) ∈ htmlAssets H cfg els := by
  rw [← styleURL_keeps (H := H) (by decide) m] at hwp ⊢
  exact style_element he ht hen hm hwp

/-- **url(...) in `style` attributes** of any element. -/
theorem c07_style_attr (cfg : Cfg) (els : List El) (e : El) (he : e ∈ els) (u : String) (hu : u ∈ styleAttrAssets e) :
    u ∈ htmlAssets H cfg els :=
  style_attr he hu

/-- **anchors** are handed on as outlinks. -/
theorem c07_anchor (cfg : Cfg) (els : List El) (e : El) (he : e ∈ els) (ht : e.tag = "a") (hen : enabled cfg "a" = true)
    (v : String) (hv : e.attr "href" = some v) (hne : v ≠ "") : v ∈ htmlOutlinks cfg els :=
  anchor_href he ht hen hv hne

/-- non-vacuity: a small page -/
example :
    let els : List El := [
      { tag := "link", attrs := [("rel", "stylesheet"), ("href", "/s.css")] },
      { tag := "link", attrs := [("rel", "alternate"), ("href", "/feed.xml")] },
      { tag := "style", text := "body { background: url('//cdn.example/bg.png') } .x { src: url(f.woff) }" },
      { tag := "img", attrs := [("src", "a.png"), ("srcset", "a-1x.png 1x, a-2x.png 2x")] },
      { tag := "div", attrs := [("style", "background-image: url(\"d.jpg\")")] },
      { tag := "a", attrs := [("href", "page2")] } ]
    htmlAssets H {} els = ["d.jpg", "a.png", "a-1x.png", "a-2x.png", "//cdn.example/bg.png", "f.woff", "/s.css"] ∧
    htmlOutlinks {} els = ["page2"] := by decide +kernel

end Zeno.Props.C07
