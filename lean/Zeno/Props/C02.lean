import Zeno.Proofs.Warc
import Zeno.Proofs.Body
import Zeno.Gen.Archiver
import Zeno.Gen.Queue
/-!
# C02 — accepted responses are in the WARC, byte-exact, before the seed is finished

Statements with short proofs; the longer ones are in `Proofs/Warc`, `Body`.
`A` = facts regenerated from archiver.go, body.go, warc.go and the discard hooks; `Q` from the
queue sources and finisher.go. The log model (Model/Warc.lean): `written u` = the WARC library has put the
records of exchange `u` on disk and signalled the request's feedback channel (library contract, validated end to
end: every record is read back from disk and compared with what the origin sent); `archived u` / `settled u` =
archive() is done with the successful / the failing attempt `u`; `notify s` = the finisher reports seed `s`
finished. `fetched s` = all exchanges of `s` whose response the discard policy accepts.
-/
namespace Zeno.Props.C02
open Zeno.Model.Warc

abbrev A : AF := Zeno.Gen.Archiver.facts
abbrev Q : QF := Zeno.Gen.Queue.facts

/-- synchronous writing is awaited on every exit of an attempt that got a response (success, retry, retries
exceeded), bodies are drained so that the library can complete the record, the discard chain is wired -/
theorem facts_ok :
    (okOrder A Q && A.discardHookWired && A.cloudflareRule && A.discardStatusRule && A.discardChainFirstWins &&
     A.challengePagesRetried && A.bodyClosesResponse && A.bodyKeptDrains && A.bodyDiscardedDrains) = true := by decide

/-- **Stored before finished.** In every admissible log with synchronous WARC writing, when a seed is reported
finished (and when its queue entry is deleted) every exchange fetched for it — including attempts that were
retried or ended in "retries exceeded" — was written earlier; the same holds for every prefix of the log. -/
theorem c02_stored_before_finished (fetched : Nat → List Nat) (a b : List Ev) (s : Nat) (e : Ev)
    (he : e = .deleted s ∨ e = .notify s) (h : admissible A Q true fetched [] (a ++ e :: b) = true) :
    ∀ u ∈ fetched s, Ev.written u ∈ a :=
  finished_implies_captured (by decide) he h

/-- **The discard policy.** A response is discarded exactly when it is a Cloudflare challenge page (403 with
`cf-mitigated: challenge`) or its status is listed in `--warc-discard-status`. -/
theorem c02_discard_table (status : Nat) (cf : Bool) (list : List Nat) :
    discarded A status cf list = true ↔ ((status = 403 ∧ cf = true) ∨ (list ≠ [] ∧ status ∈ list)) := by
  have h1 : A.discardHookWired = true := by decide
  have h2 : A.cloudflareRule = true := by decide
  have h3 : A.discardStatusRule = true := by decide
  simp only [discarded, h1, h2, h3, Bool.true_and, Bool.or_eq_true, Bool.and_eq_true, beq_iff_eq, Bool.not_eq_true',
    List.isEmpty_eq_false_iff, List.contains_eq_mem, decide_eq_true_eq, ne_eq]

/-- a discarded challenge page is retried like a bad status; other discarded responses are not retried for that reason -/
theorem c02_challenge_retried (status : Nat) (cf : Bool) (h : status = 403 ∧ cf = true) : retried A status cf = true := by
  have hc : (A.challengePagesRetried && isChallenge A 403 true) = true := by decide
  rw [retried, h.1, h.2, hc, Bool.or_true]

/-- non-vacuity: a log in which a seed with one retried attempt and one successful attempt is finished -/
example :
    admissible A Q true (fun _ => [1, 2]) [] [.written 1, .settled 1, .written 2, .archived 2, .notify 0, .deleted 0] = true ∧
    admissible A Q true (fun _ => [1, 2]) [] [.settled 1, .written 2, .archived 2, .notify 0] = false := by decide

/-! ## the payload is read to its last byte

`A.processBody` is `archiver.ProcessBody` translated statement by statement from the source on every run (tools/facts/sec_body.go):
reads of the response body (`drain`, `sniff n`, `spool`), returns, and the branch conditions; anything else that touches the body or
returns is `opaque`. The WARC library records what the crawler reads of an exchange, so "byte-identical payload" needs the body read
to its end whenever `ProcessBody` succeeds. -/

theorem body_translated : (Zeno.Model.Body.allPathsDrain A.processBody && A.copyWithTimeoutReadsToEOF && A.copyWithTimeoutNReadsN) = true := by
  decide

/-- **Every successful `ProcessBody` has read the whole body** — for every combination of the capture flags, every MIME class, every
other condition in the function and every body length; and the translation contains no statement the translator failed to
understand. -/
theorem c02_body_read_to_the_end (e : Zeno.Model.Body.Env) :
    (∀ r k, Zeno.Model.Body.run A.processBody e = .ok r k → r = e.len) ∧ Zeno.Model.Body.run A.processBody e ≠ .unknown :=
  Zeno.Model.Body.drains_sound A.processBody (by decide) e

/-- a body is kept for post-processing exactly when its MIME type asks for it (and then it was read to the end into the spool) -/
theorem c02_body_kept_iff (e : Zeno.Model.Body.Env) (he : e.other = fun _ => true) :
    Zeno.Model.Body.run A.processBody e = .ok e.len e.mimePost := by
  obtain ⟨np, mp, o, l⟩ := e
  subst he
  cases np <;> cases mp <;> rfl

/-- the two shapes seeded changes gave it: a drain under a content-length condition, and an early return for redirects -/
theorem c02_body_counterexamples :
    Zeno.Model.Body.allPathsDrain (.cons (.sniff 2048) (.cons (.ite (.other "resp.ContentLength > 2048") (.cons .drain .nil) .nil) (.cons .ret .nil))) = false ∧
    Zeno.Model.Body.allPathsDrain (.cons (.ite (.other "isRedirect") (.cons .ret .nil) .nil) (.cons .drain (.cons .ret .nil))) = false := by
  decide

end Zeno.Props.C02
