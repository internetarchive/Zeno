import Zeno.Proofs.Disk
import Zeno.Proofs.DiskProg
import Zeno.Gen.Disk
/-!
# C18 — low-disk guard: threshold semantics are exact and monotone

Statements, with short proofs from `Proofs/Disk` and `Proofs/DiskProg`.
`G` is the fact record regenerated from `/repo` on every run; `refuse` is the
model of `checkThreshold` instantiated with it. `specThreshold` (Proofs/Disk.lean) is written
from the property text. `some true` = refuse / pause, `some false` = accept.
-/
namespace Zeno.Props.C18
open Zeno.Model.Disk

abbrev G : Facts := Zeno.Gen.Disk.facts

/-- the regenerated facts are the ones the theorems below rest on -/
theorem facts_ok : ok G = true := by decide

/-- Exactness, full strength: for every volume size, free space and operator setting whose
threshold fits `uint64`, the guard refuses exactly when free space is below the threshold. -/
theorem c18_exact (total free : Nat) (msr : Rat)
    (hr : specThreshold total msr ≤ 18446744073709551615) :
    refuse G total free msr = some (decide ((free : Rat) < specThreshold total msr)) :=
  refuse_exact facts_ok total free msr hr

/-- Without an operator setting the range hypothesis is always met: exact for every volume. -/
theorem c18_exact_default (total free : Nat) (msr : Rat) (h : msr ≤ 0) :
    refuse G total free msr = some (decide ((free : Rat) < specThreshold total msr)) :=
  refuse_exact facts_ok total free msr
    (Rat.le_trans (specThreshold_default_le total msr h) (by decide))

/-- The default threshold is 50 GiB scaled linearly up to 256 GiB, then 50 GiB. -/
theorem c18_default_threshold (total : Nat) (msr : Rat) (h : msr ≤ 0) :
    threshold G total msr =
      if total ≤ 256 * 2 ^ 30 then ((50 * 2 ^ 30 : Nat) : Rat) * ((total : Rat) / ((256 * 2 ^ 30 : Nat) : Rat))
      else ((50 * 2 ^ 30 : Nat) : Rat) := by
  rw [threshold_eq_spec (by decide), specThreshold, if_neg (Rat.not_lt.mpr h)]
  rfl

/-- the operator's setting, in GiB, when given -/
theorem c18_operator_threshold (total : Nat) (msr : Rat) (h : 0 < msr) :
    threshold G total msr = msr * ((2 ^ 30 : Nat) : Rat) := by
  rw [threshold_eq_spec (by decide), specThreshold, if_pos h]
  rfl

/-- Monotone: with the same volume and setting, more free space never turns an accept into a refusal. -/
theorem c18_monotone (total free free' : Nat) (msr : Rat) (hle : free ≤ free')
    (hr : refuse G total free' msr = some true) : refuse G total free msr = some true :=
  refuse_mono (by decide) total free free' msr hle hr

/-- "…and pauses while running": whatever the sequence of disk observations, after each watcher tick
the pipeline is paused exactly when the guard's decision on the current numbers is `refuse`. -/
theorem c18_watcher_tracks_guard (lows : List Bool) : watch G lows = lows :=
  watch_tracks (by decide) lows

/-- The truncating comparison of the pinned tree (defect D13) is *not* exact: witness. -/
theorem c18_trunc_counterexample :
    refuse { G with conv := .trunc } 1000000000000 322122547 (3 / 10) = some false ∧
    ((322122547 : Nat) : Rat) < specThreshold 1000000000000 (3 / 10) := by
  constructor
  · have hb : okBase { G with conv := .trunc } = true := by decide
    rw [refuse_trunc hb rfl _ _ _ (by decide +kernel)]
    decide +kernel
  · decide +kernel

/-- non-vacuity: a concrete refusal and a concrete accept in range -/
example : refuse G (500 * 2 ^ 30) (10 * 2 ^ 30) 0 = some true ∧ refuse G (500 * 2 ^ 30) (60 * 2 ^ 30) 0 = some false := by
  rw [c18_exact_default _ _ _ (by decide), c18_exact_default _ _ _ (by decide)]
  decide

/-! ### "the operator's --min-space-required when given": from the command line to the guard -/

/-- the regenerated facts about the flag's default and `handleFlagsAliases` -/
theorem flag_facts_ok : okFlag G = true := by decide +kernel

/-- whatever value the operator gives is the setting the guard is called with -/
theorem c18_operator_setting_reaches_guard (v : Rat) : configured G (some v) = v :=
  configured_eq flag_facts_ok (some v)

/-- … so the refusal is exactly `free < v GiB`, for every value whose threshold fits `uint64` -/
theorem c18_operator_setting_decides (total free : Nat) (v : Rat) (hv : 0 < v)
    (hr : specThreshold total v ≤ 18446744073709551615) :
    refuse G total free (configured G (some v)) = some (decide ((free : Rat) < v * 1073741824)) := by
  rw [c18_operator_setting_reaches_guard v, c18_exact total free v hr]
  simp [specThreshold, hv]

/-- nothing given: the scaled default decides -/
theorem c18_nothing_given_default (total free : Nat) :
    refuse G total free (configured G none) = some (decide ((free : Rat) < specThreshold total 0)) := by
  rw [configured_eq flag_facts_ok none]
  exact c18_exact_default total free 0 (by decide)

/-- The alias rule of the pinned tree (defect D25: the key is compared, as an integer, with 20 although the
flag's default is 0) replaces an operator's 20 by the unset alias' 0: witness. -/
theorem c18_alias_counterexample :
    configured { G with msrAliasRule := "copyAlias", msrAliasGetter := "GetInt", msrAliasUnsetConst := 20,
                        msrAliasKeyConst := 20 } (some 20) = 0 := by
  decide +kernel

/-! ### the code as written now

`Gen.DiskProg.facts.checkThreshold` is `checkThreshold` translated statement by statement from the source on every run
(tools/facts/sec_arith.go), `Model/DiskProg.runCheck` runs it. -/

open Zeno.Model.DiskProg in
/-- the translated function computes exactly the model's decision, for every volume size, free space and setting
(including the cases where the float → uint64 conversion is out of range: both are undefined there) -/
theorem c18_code_is_model (total free : Nat) (msr : Rat) : runCheck P total free msr = refuse G total free msr :=
  check_translated total free msr

open Zeno.Model.DiskProg in
/-- exactness, stated over the translated function -/
theorem c18_exact_code (total free : Nat) (msr : Rat) (hr : specThreshold total msr ≤ 18446744073709551615) :
    runCheck P total free msr = some (decide ((free : Rat) < specThreshold total msr)) := by
  rw [check_translated]
  exact c18_exact total free msr hr

open Zeno.Model.DiskProg in
/-- monotonicity, stated over the translated function -/
theorem c18_monotone_code (total free free' : Nat) (msr : Rat) (hle : free ≤ free')
    (hr : runCheck P total free' msr = some true) : runCheck P total free msr = some true := by
  rw [check_translated] at hr ⊢
  exact c18_monotone total free free' msr hle hr

end Zeno.Props.C18
