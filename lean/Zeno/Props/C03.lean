import Zeno.Proofs.Stop
import Zeno.Gen.Archiver
import Zeno.Gen.Stages
import Zeno.Gen.Pause
import Zeno.Gen.Pipeline
/-!
# C03 — graceful stop always terminates and finalises the WARC output

Statements, with short proofs from `Proofs/Stop`.
`runAndStop` (Model/Stop.lean) is the outcome of a run that receives the stop request at a given
moment under a given configuration, as decision logic over shapes of the source (facts regenerated from
archiver.go `Stop`, the four stage workers' pause handshakes, `stopPipeline`, `preprocess`). That the WARC
library's `Close()` finalises the files (rename from `.open`, complete members) is its contract, validated by
reading every file back after each stop.
-/
namespace Zeno.Props.C03
open Zeno.Model.Stop

abbrev A : AF := Zeno.Gen.Archiver.facts
abbrev S : SF := Zeno.Gen.Stages.facts
abbrev U : UF := Zeno.Gen.Pause.facts
abbrev P : PF := Zeno.Gen.Pipeline.facts

theorem facts_ok :
    (A.stopClients == "nilSafe" && A.stopCancelsThenWaits && A.stopClosesAfterWriters && S.preSeencheckGuard == "guarded" &&
     U.preprocessorAck == "cancellable" && U.archiverAck == "cancellable" && U.postprocessorAck == "cancellable" &&
     U.finisherAck == "cancellable" && P.stopOrderFreezeStagesSourceReactor && P.preSendsCancellable && P.archSendsCancellable &&
     P.postSendsCancellable && P.archiveWaitsForItsCaptures && watcherReturns P.diskWatcherOnStop && watcherReturns P.warcWatcherOnStop &&
     P.insertWaitWokenByFreeze) = true := by decide

/-- **Every stop moment × every configuration**: the run reaches the stop and the stop returns — no crash, no hang. -/
theorem c03_stop_returns (c : Cfg) (m : Moment) : runAndStop A S U P c m = .returned :=
  runAndStop_returns (by constructor <;> rfl) rfl rfl rfl rfl c m

/-- what the two shapes found in the pinned tree did: with `--proxy` only the proxied client exists and `Stop`
dereferenced the direct one; with `--disable-seencheck` the store was consulted although never opened -/
theorem c03_old_shapes_crash :
    archiverStop { A with stopClients := "derefsDirectClient" } U P { proxy := true } .drained =
      .crash "nil dereference of the direct client (only the proxied one exists)" ∧
    firstSeed { S with preSeencheckGuard := "always" } { seencheck := false } = .crash "nil seen-store in preprocess" := by
  have hcw : A.stopCancelsThenWaits = true := rfl
  have hack : U.archiverAck = "cancellable" := rfl
  have hsend : P.archSendsCancellable = true := rfl
  constructor
  · simp [archiverStop, workerStop_returns, hcw, hack, hsend]
  · simp [firstSeed]

/-- the shapes of two later seeded changes hang: a disk watcher that waits for free space before it returns (stop while it holds the
pipeline paused), and a `ReceiveInsert` whose wait for a token does not listen to the freeze context (stop while the source is blocked) -/
theorem c03_waiting_shapes_hang :
    stopPipeline A U { P with diskWatcherOnStop := "mayWait" } {} .pausedByDiskWatcher =
      .hang "the disk watcher holds the pipeline paused and waits for free space before it returns" ∧
    stopPipeline A U { P with insertWaitWokenByFreeze := false } {} .sourceBlockedOnInsert =
      .hang "the source's consumer is blocked in ReceiveInsert and Freeze does not wake it" := by
  constructor
  · rw [stopPipeline_eq (by constructor <;> rfl)]
    rfl
  · rw [stopPipeline_eq (by constructor <;> rfl)]
    rfl

end Zeno.Props.C03
