import Zeno.Proofs.Pause
import Zeno.Proofs.PauseTerm
import Zeno.Gen.Pause
/-!
# C14 — pause stops all stages, resume wakes them all, the protocol never deadlocks

Statements, with short proofs from `Proofs/Pause` and `Proofs/PauseTerm`.
`G` = facts regenerated from pause.go and from the pause case of the four stage
workers. The model is a transition system over fine-grained actions (Model/Pause.lean): any number
`n` of subscribed workers, any number of `Pause` / `Resume` / stop invocations from any controllers
in any order, further workers subscribing at any moment (a stage worker subscribes from inside its own
goroutine), interleaved arbitrarily with the internal steps (signalling, acknowledging, collecting,
exiting). `Reachable G n s` = `s` is reachable from `n` initial subscribers by any such history.
-/
namespace Zeno.Props.C14
open Zeno.Model.Pause

abbrev G : Facts := Zeno.Gen.Pause.facts

theorem facts_ok : ok G = true := by decide

/-- **No deadlock**, for every history and every number of workers: in any reachable state in which
nothing more can happen by itself, every invoked `Pause` / `Resume` has returned (none is signalling,
collecting or queued on the lock), a worker waits for resume only while the manager is paused, and
after a stop request every worker has exited. -/
theorem c14_no_deadlock (n : Nat) (s : S) (hr : Reachable G n s) (hq : Quiescent G s) :
    s.pendingCalls = 0 ∧ (∀ i, (s.sub i).st = .acking → s.paused = true) ∧
    (s.stop = true → ∀ i, i < s.n → (s.sub i).st = .exited) := by
  have h := quiescent_facts (ok_guarded facts_ok) (ok_ack facts_ok) (reachable_inv (ok_guarded facts_ok) hr) hq
  exact ⟨by simp [S.pendingCalls, h.1, h.2.1, h.2.2.1], h.2.2.2⟩

/-- **No livelock**: every internal step strictly decreases the measure `mu` (blocked Resumes, collecting Resumes and their
outstanding workers, pause signals still to be sent, tokens, live workers), so whatever the interleaving, at most `mu s`
internal steps can follow a state `s` … -/
theorem c14_internal_steps_bounded (s s' : S) (acts : List Act) (h : Run G s acts s') : acts.length + mu s' ≤ mu s :=
  run_bounded G s s' acts h

/-- … and together with "no deadlock": from any reachable state, any schedule of internal steps that runs until nothing more
can happen is finite (at most `mu s` steps) and ends with every `Pause` and `Resume` call returned. -/
theorem c14_every_call_returns (n : Nat) (s s' : S) (acts : List Act) (hr : Reachable G n s) (h : Run G s acts s')
    (hq : Quiescent G s') : acts.length ≤ mu s ∧ s'.pendingCalls = 0 :=
  ⟨Nat.le_of_add_right_le (run_bounded G s s' acts h), (c14_no_deadlock n s' (run_reachable G n s s' acts hr h) hq).1⟩

/-- **Pause stops all stages**: in every reachable paused state with no `Resume` in progress, every live
worker has the pause signal on its way or in its channel, or is already waiting — and a waiting
worker takes no work (its goroutine is blocked in the pause case: `takeToken` turns `running` into
`acking`, and only a collecting `Resume` or a stop turns it back). -/
theorem c14_pause_reaches_all (n : Nat) (s : S) (hr : Reachable G n s) (hp : s.paused = true) (hres : s.resumes = [])
    (i : Nat) (hl : s.live i = true) : busy s i :=
  (reachable_inv (ok_guarded facts_ok) hr).p0 hp hres i hl

/-- **Resume wakes all**: when a `Resume` that found the pipeline paused returns, the flag is cleared,
every live worker runs again and no pause signal is left behind for a later epoch. -/
theorem c14_resume_wakes_all (n : Nat) (s s' : S) (k : Nat) (hr : Reachable G n s)
    (hs : step G s (.resumeFinish k) = some s') :
    s'.paused = false ∧ ∀ i, s'.live i = true → (s'.sub i).st = .running ∧ (s'.sub i).token = false :=
  resume_wakes_all (reachable_inv (ok_guarded facts_ok) hr) hs

/-- unmatched calls are harmless: `Resume` with nothing paused returns at once, a repeated `Pause` is swallowed -/
theorem c14_unmatched_calls_return (s : S) :
    (s.paused = false → s.resumes = [] → step G s .resumeCall = some s) ∧
    (s.paused = true → step G s .pauseCall = some s) :=
  ⟨resume_unpaused_noop (ok_guarded facts_ok), pause_paused_noop G⟩

/-- a worker waiting for resume can always leave once its stage is stopped -/
theorem c14_stop_releases_waiting_worker (s : S) (i : Nat) (hi : i < s.n) (hstop : s.stop = true)
    (hack : (s.sub i).st = .acking) : (step G s (.exit i)).isSome = true := by
  simp [step, hstop, hi, hack, ok_ack facts_ok]

/-- The pinned tree (no flag test, no serialisation: defect D5) did deadlock: one running worker, one
unmatched `Resume` — nothing can happen and the call never returns. -/
theorem c14_d5_counterexample :
    let F := { G with resumeSerialised := false, resumeChecksFlagFirst := false }
    let s := runActs F (S.init 1) [.resumeCall]
    quiescent F s = true ∧ s.pendingCalls = 1 := by
  decide

/-- … and a worker waiting for resume could not leave on stop (defect D4) -/
theorem c14_d4_counterexample :
    let F := { G with preprocessorAck := "bare" }
    let s := runActs F (S.init 1) [.pauseCall, .pauseSend 0, .takeToken 0, .stopCall]
    quiescent F s = true ∧ (s.sub 0).st = .acking := by
  decide

/-- **Late subscribers** (defect D27, repaired): a worker may subscribe at any moment at which no `Resume` is collecting
(the two are serialised by the lock); when the pipeline is paused it is handed the pause signal at once, so
`c14_pause_reaches_all` and `c14_no_deadlock` above cover it like every other worker. -/
theorem c14_late_subscriber (n : Nat) (s : S) (hr : Reachable G n s) (hres : s.resumes = []) :
    ∃ s', step G s .subscribe = some s' ∧ Reachable G n s' ∧ s'.n = s.n + 1 ∧ s'.live s.n = true ∧
      (s.paused = true → busy s' s.n) := by
  have hst : step G s .subscribe = some { s with n := s.n + 1, subs := fun j => if j = s.n then { st := .running, token := s.paused } else s.subs j } := by
    rw [step, if_pos (by decide), hres]
    rfl
  refine ⟨_, hst, Reachable.step s _ .subscribe hr hst, rfl, ?_, fun hp => .inr (.inl ?_)⟩
  · simp [S.live, S.sub, Sub.live]
  · simp [S.sub, hp]

/-- without the repair (`Subscribe` only registers the channels) the newcomer of a paused pipeline would never be signalled, and the
next `Resume` would wait for it for ever: the model simply has no `subscribe` step then, i.e. the theorems would not cover it -/
theorem c14_d27_not_covered :
    step { G with subscribeSignalsWhenPaused := false } (runActs G (S.init 1) [.pauseCall]) .subscribe = none := by
  decide

/-- non-vacuity: one worker, pause, a second worker subscribes while paused and is stopped too, resume wakes both -/
example :
    let s := runActs G (S.init 1) [.pauseCall, .pauseSend 0, .takeToken 0, .subscribe, .takeToken 1, .resumeCall,
      .resumeRecv 0 0, .resumeRecv 0 1, .resumeFinish 0]
    s.n = 2 ∧ s.pendingCalls = 0 ∧ s.paused = false ∧ (s.sub 0).st = .running ∧ (s.sub 1).st = .running := by
  decide

/-- non-vacuity: a reachable history with two workers, a swallowed second pause and an unmatched resume -/
example : (runActs G (S.init 2) [.pauseCall, .pauseCall, .pauseSend 0, .takeToken 0, .pauseSend 0, .resumeCall,
    .takeToken 1, .resumeRecv 0 0, .resumeRecv 0 1, .resumeFinish 0, .resumeCall]).pendingCalls = 0 := by
  decide

end Zeno.Props.C14
