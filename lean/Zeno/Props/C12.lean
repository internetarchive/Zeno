import Zeno.Proofs.Reactor
import Zeno.Proofs.ReactorFine
import Zeno.Gen.Reactor
/-!
# C12 — reactor: bounded in-flight seeds, exact token accounting, no deadlock

Statements, with short proofs from `Proofs/Reactor` and `Proofs/ReactorFine`.
`G` = facts regenerated from reactor.go; `step G`/`run G` = the sequential model
(every API call runs to quiescence; calls parked on the token pool are woken in FIFO order).
`Good r` = the process crashed (duplicate insert panics) / wedged, or the accounting invariant
holds; `Disc`/`DiscRun` = the client discipline of the pipeline (the consumer feeds back or
finishes only seeds it holds, the source never inserts a tracked or waiting id).
-/
namespace Zeno.Props.C12
open Zeno.Model.Reactor

abbrev G : Facts := Zeno.Gen.Reactor.facts

theorem facts_ok : ok G = true := by decide

/-- For every history of API calls (any ids, any order, any token count): tokens in use equal the
number of tracked seeds, the table holds no id twice, and tokens never exceed the configured count. -/
theorem c12_tokens_eq_tracked (ops : List Op) :
    let r := run G R.init ops
    r.dead = true ∨ (r.tokens = r.table.length ∧ r.table.Nodup ∧ r.tokens ≤ r.cap) :=
  (run_good (ok_tokens facts_ok) ops (.inr inv_init)).imp id fun h => ⟨h.tok, h.nodup, h.le⟩

/-- Under the pipeline's client discipline no history ever crashes or wedges the reactor, and each
tracked seed is in exactly one place: queued for delivery or held by the consumer. -/
theorem c12_disciplined_no_deadlock (ops : List Op) (hd : DiscRun G R.init ops) :
    let r := run G R.init ops
    r.dead = false ∧ r.tokens = r.table.length ∧ r.tokens ≤ r.cap ∧
      (∀ a, r.queue.count a + r.held.count a = r.table.count a) := by
  have := run_full (ok_tokens facts_ok) inv_init lin_init hd
  exact ⟨this.2.alive, this.1.tok, this.1.le, this.2.cnt⟩

/-- Feeding a held seed back never blocks (and costs no token: `tokens = |table|` is kept by
`c12_tokens_eq_tracked`). -/
theorem c12_feedback_nonblocking (ops : List Op) (hd : DiscRun G R.init ops) (x : Id)
    (hx : x ∈ (run G R.init ops).held) :
    (step G (run G R.init ops) (.feedback x)).2.1 ≠ .blocked := by
  have := run_full (ok_tokens facts_ok) inv_init lin_init hd
  exact (feedback_held G this.1 this.2 hx).1

/-- Feedback for an unknown seed is rejected without side effects (in every state). -/
theorem c12_unknown_feedback_rejected (r : R) (x : Id) (hx : x ∉ r.table) :
    (step G r (.feedback x)).1 = r ∧ (step G r (.feedback x)).2.1 ≠ .ok :=
  feedback_unknown (ok_tokens facts_ok) hx

/-- Finishing an unknown seed is rejected without side effects (in every state) … -/
theorem c12_unknown_finish_rejected (r : R) (x : Id) (hx : x ∉ r.table) :
    (step G r (.finish x)).1 = r ∧ (step G r (.finish x)).2.1 ≠ .ok :=
  finish_unknown G hx

/-- … and after a successful finish the seed is unknown, so a repeated finish is rejected. -/
theorem c12_double_finish_rejected (ops : List Op) (x : Id)
    (hlive : Live (run G R.init ops)) (hx : x ∈ (run G R.init ops).table)
    (hp : (run G R.init ops).blockedIns.head? ≠ some x) :
    let r' := (step G (run G R.init ops) (.finish x)).1
    (step G r' (.finish x)).1 = r' ∧ (step G r' (.finish x)).2.1 ≠ .ok :=
  have h := (run_good (ok_tokens facts_ok) ops (.inr inv_init)).resolve_left (ne_true_of_eq_false hlive.1)
  finish_unknown G (finish_removes G h hlive hx hp).2

/-- Once frozen the reactor accepts nothing further: inserts and feedback are rejected, state unchanged. -/
theorem c12_frozen_accepts_nothing (r : R) (x : Id) (hfz : r.frozen = true) :
    ((step G r (.insert x)).1 = r ∧ (step G r (.insert x)).2.1 ≠ .ok) ∧
    ((step G r (.feedback x)).1 = r ∧ (step G r (.feedback x)).2.1 ≠ .ok) :=
  ⟨frozen_insert G (by decide) x hfz, frozen_feedback G (by decide) x hfz⟩

/-- Once stopped the reactor is gone: every call is rejected. -/
theorem c12_stopped_accepts_nothing (r : R) (x : Id) :
    let r' := (step G r .stop).1
    (step G r' (.insert x)).2.1 ≠ .ok ∧ (step G r' (.feedback x)).2.1 ≠ .ok :=
  ⟨(stopped_refuses G r).2, (stopped_refuses G r).2⟩

/-- Every accepted seed reaches the output as long as a consumer reads: a seed at position `k` of
the queue has been delivered after `k + 1` receives; and a tracked seed is queued or held. -/
theorem c12_every_accepted_reaches_output (r : R) (hl : Live r) (pre post : List Id) (x : Id)
    (hq : r.queue = pre ++ x :: post) : x ∈ (recvN G r (pre.length + 1)).held :=
  recv_reaches G hl hq

theorem c12_tracked_is_queued_or_held (ops : List Op) (hd : DiscRun G R.init ops) (x : Id)
    (hx : x ∈ (run G R.init ops).table) :
    x ∈ (run G R.init ops).queue ∨ x ∈ (run G R.init ops).held :=
  tracked_somewhere (run_full (ok_tokens facts_ok) inv_init lin_init hd).2 hx

/-- non-vacuity: a disciplined history that fills the pool, parks an insert, and wakes it -/
def sampleOps : List Op :=
  [Op.start 1, .insert "a", .insert "b", .recv, .feedback "a", .recv, .finish "a", .recv]
example : DiscRun G R.init sampleOps ∧ (run G R.init sampleOps).held = ["b"] ∧
    (run G R.init sampleOps).tokens = 1 := by
  decide

/-! ## under concurrent callers

`ReactorFine` (Model/ReactorFine.lean) splits each API call into the operations the source performs, in the order read from
the source (`G.insertSeq`, `G.finishSeq`), and lets any number of calls interleave between them (`Act.step i` = the i-th call
in flight performs its next operation; `Act.call` = another goroutine enters; `Act.deliver` = `run` forwards a seed). -/
open Zeno.Model.ReactorFine

theorem seq_ok : okSeq G = true := by decide

/-- **Every interleaving.** After any schedule of any number of concurrent inserts, finishes and feedbacks — as long as no
caller inserted a seed that was already tracked — the tokens in use equal the tracked seeds plus the calls that are between
their two operations (an insert holding its token but not yet stored; a finish that removed the entry but has not yet given
the token back); they never exceed the configured number, and no seed is tracked twice. -/
theorem c12_tokens_under_any_interleaving (cap : Nat) (acts : List Act) (hd : (Zeno.Model.ReactorFine.run G { cap := cap } acts).dead = false) :
    let s := Zeno.Model.ReactorFine.run G { cap := cap } acts
    s.tokens = s.table.length + extra G s ∧ s.tokens ≤ cap ∧ s.table.Nodup ∧ s.table.length ≤ cap := by
  obtain ⟨ha, hb, hn⟩ := (inv_run seq_ok acts (.inr (inv_init G cap))).resolve_left (ne_true_of_eq_false hd)
  rw [run_cap seq_ok acts] at hb
  exact ⟨ha, hb, hn, Nat.le_of_add_right_le (ha ▸ hb)⟩

/-- … so at every moment when no call is in flight, the tokens in use are exactly the tracked seeds. -/
theorem c12_quiescent_tokens_eq_tracked (cap : Nat) (acts : List Act) (hd : (Zeno.Model.ReactorFine.run G { cap := cap } acts).dead = false)
    (hq : (Zeno.Model.ReactorFine.run G { cap := cap } acts).calls = []) :
    (Zeno.Model.ReactorFine.run G { cap := cap } acts).tokens = (Zeno.Model.ReactorFine.run G { cap := cap } acts).table.length := by
  simpa only [extra, hq, List.countP_nil, Nat.add_zero] using (c12_tokens_under_any_interleaving cap acts hd).1

/-- non-vacuity, and the two orders the source must not have: two overlapping finishes of one seed are harmless with
`LoadAndDelete` — and give a token back twice with a separate `Load` and `Delete`; storing the seed before holding a token
lets more seeds be tracked than there are tokens. -/
theorem c12_fine_examples :
    let ins2 : List Act := [.call (.ins "a" 0), .call (.ins "b" 0), .step 0, .step 1, .step 0, .step 1, .step 0, .step 1, .step 0, .step 0]
    let fin2 : List Act := [.call (.fin "a" 0 false), .call (.fin "a" 0 false), .step 0, .step 1, .step 0, .step 1, .step 0, .step 1, .step 0, .step 0]
    let good := Zeno.Model.ReactorFine.run G { cap := 2 } (ins2 ++ fin2)
    let bad := Zeno.Model.ReactorFine.run { G with finishSeq := ["load", "delete", "release"] } { cap := 2 } (ins2 ++ fin2)
    let early := Zeno.Model.ReactorFine.run { G with insertSeq := ["loadOrStore", "acquire", "enqueue"] } { cap := 1 }
      [.call (.ins "a" 0), .call (.ins "b" 0), .step 0, .step 1, .step 0]
    (good.tokens, good.table, good.calls) = (1, ["b"], []) ∧
    (bad.tokens, bad.table, bad.calls) = (0, ["b"], []) ∧
    (early.tokens, early.table.length, early.cap) = (1, 2, 1) := by
  decide +kernel

end Zeno.Props.C12
