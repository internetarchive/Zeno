import Zeno.Proofs.Flow
import Zeno.Props.C12
import Zeno.Props.C13
import Zeno.Proofs.Stages
import Zeno.Proofs.Pipeline
import Zeno.Gen.Stages
import Zeno.Gen.Pipeline
import Zeno.Gen.Item
/-!
# C16 — resource use does not grow with the number of seeds processed

The statements, each proved in a few lines from `Proofs/` and the other property files. Every statement is about all
histories / all trees, and each is the part of the property that is logic: the reactor's token accounting (C12's model),
the limiter table's bound (C13's model), `closeBodies` at the end of `postprocess` (stage model), and "nothing stays in
flight" (pipeline model). Goroutine and file-descriptor counts are runtime facts: they are measured on whole crawls of N
and 4N seeds.
-/
namespace Zeno.Props.C16
open Zeno.Model.Item Zeno.Model.Stages

theorem facts_ok :
    Zeno.Model.Reactor.ok Zeno.Gen.Reactor.facts = true ∧ Zeno.Model.RateLimiter.ok Zeno.Gen.RateLimiter.facts = true ∧
    okPost Zeno.Gen.Stages.facts = true ∧ Zeno.Model.Pipeline.okFin Zeno.Gen.Pipeline.facts = true ∧
    Zeno.Gen.Stages.facts.postWorkerClosesBodies = true :=
  ⟨Zeno.Props.C12.facts_ok, Zeno.Props.C13.facts_ok, by decide, by decide, by decide⟩

/-- **The reactor tracks no seed and all tokens are free once everything was finished**: for every history of API
calls, tokens in use equal the number of tracked seeds (so an empty table means zero tokens in use). -/
theorem c16_tokens_free_when_nothing_tracked (ops : List Zeno.Model.Reactor.Op) :
    let r := Zeno.Model.Reactor.run Zeno.Gen.Reactor.facts Zeno.Model.Reactor.R.init ops
    r.dead = true ∨ (r.table = [] → r.tokens = 0) :=
  (Zeno.Props.C12.c12_tokens_eq_tracked ops).imp id fun h he => h.1.trans (congrArg List.length he)

/-- **The per-host limiter table stays within its configured bound**, however many hosts are contacted. -/
theorem c16_limiter_table_bounded (m : Nat) (hosts : List String) (hh : ∀ x ∈ hosts, x ≠ "") (hk : hosts.length < 2147483647) :
    (hosts.foldl (Zeno.Model.RateLimiter.getBucket Zeno.Gen.RateLimiter.facts m) []).length ≤ max m 1 :=
  Zeno.Props.C13.c13_table_bounded m hosts hh hk

/-- **No response body stays open**: after `postprocess` (which ends with `closeBodies`) no node of the tree, down to
the working depth, holds its body — whatever was fetched and extracted. -/
theorem c16_bodies_closed (cfg : Cfg) (ex : String → Extract) (t : Tree) (n : Nat) (hn : n ≤ t.maxDepth) :
    ∀ i ∈ ((postprocess Zeno.Gen.Stages.facts cfg ex t).1).atLevel n, i.body = false :=
  postprocess_closes_bodies Zeno.Gen.Stages.facts cfg ex t n hn

/-- **Nothing accumulates in the pipeline**: after any interleaving, every accepted seed is in flight at most once, so
the seeds in flight never outnumber the distinct ids accepted and not yet reported. -/
theorem c16_in_flight_bounded (evs : List Zeno.Model.Pipeline.Ev)
    (he : ∀ e ∈ evs, Zeno.Model.Pipeline.Shaped Zeno.Gen.Item.facts e) (x : String) :
    (Zeno.Model.Pipeline.ids (Zeno.Model.Pipeline.run Zeno.Gen.Pipeline.facts Zeno.Gen.Item.facts {} evs)).count x ≤ 1 :=
  List.nodup_iff_count.1
    (Zeno.Model.Pipeline.inv_run _ _ facts_ok.2.2.2.1 (by decide) evs {} (Zeno.Model.Pipeline.inv_init _) he).nodup x

/-- **Back to idle.** In the flow through the channels and worker pools (Model/Flow.lean, any `--workers`, any interleaving): once
nothing is left inside the pipeline — no seed in a channel or held by a worker, no outlink or acknowledgement waiting for the
source — no token is in use. -/
theorem c16_idle_means_all_tokens_free (w : Nat) (acts : List Zeno.Model.Flow.Act)
    (hidle : (Zeno.Model.Flow.run ⟨w, w, w⟩ {} acts).busy = false) : (Zeno.Model.Flow.run ⟨w, w, w⟩ {} acts).used = 0 := by
  have h := (Zeno.Model.Flow.inv_run ⟨w, w, w⟩ acts {} (Zeno.Model.Flow.inv_init _)).acct
  have hb := of_decide_eq_false hidle
  omega

end Zeno.Props.C16
