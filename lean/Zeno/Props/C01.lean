import Zeno.Proofs.Pipeline
import Zeno.Proofs.Life
import Zeno.Proofs.LifeDone
import Zeno.Proofs.Flow
import Zeno.Gen.Reactor
import Zeno.Gen.Stages
import Zeno.Gen.Pipeline
import Zeno.Gen.Item
/-!
# C01 — each accepted seed is finished exactly once, only after its whole tree is done

The statements, each proved in a few lines from `Proofs/`. `P` = facts regenerated from controler/pipeline.go, the stage workers and finisher.go;
`I` from item*.go. `run` (Model/Pipeline.lean) executes an arbitrary sequence of events — the reactor
accepting a seed, a stage handing a seed on with its tree transformed in any way, a finisher worker
handling a seed — i.e. every interleaving of the workers and every behaviour of the site.
`Shaped` = the trees entering the system and handed on by the stages have the closure shape that the
item operations maintain (C11).
-/
namespace Zeno.Props.C01
open Zeno.Model.Item Zeno.Model.Stages Zeno.Model.Pipeline

abbrev P : PF := Zeno.Gen.Pipeline.facts
abbrev I : IF := Zeno.Gen.Item.facts

theorem facts_ok : (okFin P && okSets I && P.finChecksConsistency) = true := by decide

theorem run_inv (evs : List Ev) (he : ∀ e ∈ evs, Shaped I e) : Inv I (run P I {} evs) := by
  have h := facts_ok
  simp only [Bool.and_eq_true] at h
  exact inv_run P I h.1.1 h.1.2 evs {} (inv_init I) he

/-- **Never dropped, never reported twice.** After any sequence of events, each id is tracked at most once, and
the number of times it was accepted equals the number of times it is in flight, plus the number of times it
was reported back to the queue (acknowledged as finished or produced as a new URL), plus the number of times
a frozen reactor refused it as feedback (it then stays in the reactor's state table, which the source hands
back to the queue when it stops — not finished, not lost). -/
theorem c01_conservation (evs : List Ev) (he : ∀ e ∈ evs, Shaped I e) (x : String) :
    let s := run P I {} evs
    (ids s).count x ≤ 1 ∧ s.accepted.count x = (ids s).count x + reported s x + handedBack s x := by
  have h := run_inv evs he
  exact ⟨List.nodup_iff_count.1 h.nodup x, h.conserve x⟩

/-- **Exactly once.** When nothing is in flight any more (and no stop intervened), every seed that was accepted
once has been reported back exactly once. -/
theorem c01_exactly_once (evs : List Ev) (he : ∀ e ∈ evs, Shaped I e) (x : String)
    (hdrained : (run P I {} evs).items = []) (hacc : (run P I {} evs).accepted.count x = 1)
    (hnostop : (run P I {} evs).parked = []) :
    reported (run P I {} evs) x = 1 := by
  simpa [Zeno.Model.Pipeline.ids, hdrained, handedBack, hnostop, hacc] using ((run_inv evs he).conserve x).symm

/-- nothing is reported back that was not accepted: the queue never gets an acknowledgement for a seed it did not hand out -/
theorem c01_reported_was_accepted (evs : List Ev) (he : ∀ e ∈ evs, Shaped I e) (x : String)
    (h : 0 < reported (run P I {} evs) x) : x ∈ (run P I {} evs).accepted := by
  rw [← List.count_pos_iff, (run_inv evs he).conserve x]
  omega

/-- **Only after the whole tree is done.** Whenever a seed is acknowledged as finished, no node of its tree
is still waiting to be fetched or post-processed (Fresh, PreProcessed, Archived, …): every URL of the tree
has been fetched, skipped or has failed for good. -/
theorem c01_ack_only_when_tree_done (evs : List Ev) (he : ∀ e ∈ evs, Shaped I e) :
    ∀ a ∈ (run P I {} evs).acks, a.2.anyPending = false :=
  (run_inv evs he).done

/-- non-vacuity: a seed goes round twice (page, then its asset) and is acknowledged once, with nothing pending -/
example :
    let leaf (st : Status) : Tree := .node { id := "a", url := "http://x.example/a.png", st := st } .nil
    let t0 : Tree := .node { id := "s", url := "http://x.example/", st := .fresh } .nil
    let t1 : Tree := .node { id := "s", url := "http://x.example/", st := .gotChildren } (.cons (leaf .fresh) .nil)
    let t2 : Tree := .node { id := "s", url := "http://x.example/", st := .gotChildren } (.cons (leaf .completed) .nil)
    let evs : List Ev := [.accept "s" t0, .advance "s" t0, .advance "s" t0, .advance "s" t0, .advance "s" t1, .finish "s",
                          .advance "s" t1, .advance "s" t1, .advance "s" t1, .advance "s" t2, .finish "s", .finish "s"]
    let s := run P I {} evs
    (s.items.length, s.acks.map Prod.fst, s.passes, s.accepted) = (0, ["s"], ["s"], ["s"]) ∧
    -- … and with a stop in between: the unfinished seed is neither acknowledged nor dropped
    (let s' := run P I {} [.accept "s" t0, .advance "s" t0, .advance "s" t0, .advance "s" t0, .advance "s" t1, .freeze, .finish "s"]
     (s'.acks.length, s'.parked) = (0, ["s"])) := by decide

/-! ## never dropped: every seed is eventually let go by the finisher

The events above leave open *how often* a seed is sent round again. `Model/Life.lean` composes the stage models themselves
(`preprocess`, `archive`, `postprocess`, the finisher's decision) into the life of one seed, with arbitrary oracles for the
normaliser, the site and the extractors in every pass. -/

/-- the facts about the stages that the life of a seed rests on -/
theorem life_ok :
    (okPost Zeno.Gen.Stages.facts && okSets I && !(Zeno.Gen.Stages.facts.preSeencheckGuard == "always")) = true := by decide

/-- **A seed cannot circulate for ever** (domains-crawl off): whatever the site serves in whichever pass, the finisher lets
the seed go — acknowledges it — after at most `4 · max-redirect + 4` passes, and no pass makes `preprocess` panic. -/
theorem c01_seed_is_let_go (cfg : Cfg) (hdc : cfg.domainsCrawl = false) (os : List Zeno.Model.Life.Oracle) (seen : Seen) (i : Info)
    (hf : i.st = .fresh) (hr : i.redirects = 0)
    (hids : Zeno.Model.Life.idsOK Zeno.Gen.Stages.facts I cfg os seen (.node i .nil) = true)
    (hlen : 4 * cfg.maxRedirect + 4 ≤ os.length) :
    (Zeno.Model.Life.life Zeno.Gen.Stages.facts I cfg os seen (.node i .nil)).2.isSome = true := by
  obtain ⟨hS, hI, hg⟩ := Zeno.Model.Life.life_facts life_ok
  exact (Zeno.Model.Life.life_bounded Zeno.Gen.Stages.facts hS hg I hI cfg hdc os seen 0 _
    (Zeno.Model.Life.start_seed cfg.maxRedirect i hf hr) hids (by rwa [Nat.zero_add])).1

/-- **Only after the whole tree is done — for the stages themselves.** One pass of a seed through the stage models, started
from the shape a pass starts in (`Start`: depth `d`, pending nodes Fresh and on level `d`, ranked; `wp`: every node with a
descendant on level `d` is GotChildren / GotRedirected): the finisher lets the seed go only if no node of the resulting tree
is still Fresh, PreProcessed or Archived; otherwise the seed is sent round again, one level deeper, in the same shape. No
assumption on the trees the stages hand on: they are computed by `preprocess`, `archive`, `postprocess`. -/
theorem c01_pass_acknowledges_only_done_trees (cfg : Cfg) (hdc : cfg.domainsCrawl = false) (o : Zeno.Model.Life.Oracle) (seen : Seen)
    (d : Nat) (t : Tree) (h : Zeno.Model.Life.Start cfg.maxRedirect d t) (hw : t.wp d = true)
    (hid : Zeno.Model.Life.passIds Zeno.Gen.Stages.facts I cfg o seen t = true) :
    let r := Zeno.Model.Life.pass Zeno.Gen.Stages.facts I cfg o seen t
    (r.act = .finish ∧ r.tree.anyPending = false) ∨
    (r.act = .feedback ∧ Zeno.Model.Life.Start cfg.maxRedirect (d + 1) r.tree ∧ r.tree.wp (d + 1) = true) :=
  have ⟨hS, hI, hg⟩ := Zeno.Model.Life.life_facts life_ok
  Zeno.Model.Life.pass_progressW Zeno.Gen.Stages.facts hS hg I hI cfg hdc o seen h hw hid

/-- … and over a whole life: the tree with which a seed finally leaves the pipeline (and is acknowledged to the queue) has
nothing pending, whatever the site served in whichever pass. -/
theorem c01_acknowledged_tree_is_done (cfg : Cfg) (hdc : cfg.domainsCrawl = false) (os : List Zeno.Model.Life.Oracle) (seen : Seen) (i : Info)
    (hf : i.st = .fresh) (hr : i.redirects = 0)
    (hids : Zeno.Model.Life.idsOK Zeno.Gen.Stages.facts I cfg os seen (.node i .nil) = true) (t' : Tree)
    (hfin : (Zeno.Model.Life.life Zeno.Gen.Stages.facts I cfg os seen (.node i .nil)).2 = some t') : t'.anyPending = false :=
  have ⟨hS, hI, hg⟩ := Zeno.Model.Life.life_facts life_ok
  Zeno.Model.Life.life_done Zeno.Gen.Stages.facts hS hg I hI cfg hdc os seen 0 _
    (Zeno.Model.Life.start_seed cfg.maxRedirect i hf hr) (Tree.wp_zero _) hids t' hfin

/-! ## no interleaving of the workers wedges the pipeline

`Model/Flow.lean`: the reactor's input channel and token pool, the `run` goroutine, the four stage channels with their worker
pools, the finisher's two channels to the source — as counters, with every receive and every send a separate step that is
enabled only when the channel has an item / has room and a worker is free. The capacities are facts: every stage channel is
buffered with `--workers`, the reactor has `--workers` tokens and an input channel of that size, every stage starts `--workers`
workers. -/

theorem flow_facts_ok :
    (P.stageChannelsBufferedWithWorkers && P.makeStageChannelUsesItsSize && P.reactorTokensAreWorkers &&
     P.everyStageStartsWorkersCountWorkers && Zeno.Gen.Reactor.facts.tokenCapIsMax && Zeno.Gen.Reactor.facts.inputCapIsMax &&
     Zeno.Gen.Reactor.facts.feedbackTakesNoToken) = true := by decide

open Zeno.Model.Flow in
/-- **Bounded in flight.** In every reachable state of the flow, the seeds inside the pipeline are exactly the tokens in use, and
never more than `--workers`. -/
theorem c01_in_flight_eq_tokens (w : Nat) (acts : List Act) :
    (Zeno.Model.Flow.run ⟨w, w, w⟩ {} acts).seeds = (Zeno.Model.Flow.run ⟨w, w, w⟩ {} acts).used ∧
    (Zeno.Model.Flow.run ⟨w, w, w⟩ {} acts).used ≤ w :=
  have h := inv_run ⟨w, w, w⟩ acts {} (inv_init _)
  ⟨h.acct, h.bound⟩

open Zeno.Model.Flow in
/-- **The finisher's feedback never blocks.** In every reachable state in which a finisher worker holds a seed, the reactor's input
channel has room for it (the seed still has its token, and the channel is as large as the token pool). -/
theorem c01_feedback_never_blocks (w : Nat) (acts : List Act) (hf : 0 < (Zeno.Model.Flow.run ⟨w, w, w⟩ {} acts).fs) :
    (Zeno.Model.Flow.step ⟨w, w, w⟩ (Zeno.Model.Flow.run ⟨w, w, w⟩ {} acts) .finFeedback).isSome = true :=
  feedback_enabled _ _ (inv_run ⟨w, w, w⟩ acts {} (inv_init _)) hf

open Zeno.Model.Flow in
/-- **No deadlock.** After any interleaving of receives and sends of any of the workers (`--workers` ≥ 1), as long as anything is
left inside the pipeline some step other than a new insert is enabled: a worker can receive or send, `run` can forward, the
finisher can hand its seed back / on, or the source can consume an acknowledgement or a new URL. -/
theorem c01_no_deadlock (w : Nat) (hw : 1 ≤ w) (acts : List Act) (hb : (Zeno.Model.Flow.run ⟨w, w, w⟩ {} acts).busy = true) :
    ∃ a, a ≠ Act.insert ∧ (Zeno.Model.Flow.step ⟨w, w, w⟩ (Zeno.Model.Flow.run ⟨w, w, w⟩ {} acts) a).isSome = true :=
  progress ⟨w, w, w⟩ hw hw _ (inv_run ⟨w, w, w⟩ acts {} (inv_init _)) hb

open Zeno.Model.Flow in
/-- … and every such step except the finisher's feedback (bounded per seed by `c01_seed_is_let_go`) and the hand-over of an outlink
moves an item strictly closer to the exit: the flow cannot spin. -/
theorem c01_steps_make_progress (w : Nat) (s s' : S) (a : Act) (hs : Zeno.Model.Flow.step ⟨w, w, w⟩ s a = some s')
    (ha : a ≠ .insert ∧ a ≠ .finFeedback ∧ a ≠ .postOutlink) : s'.weight < s.weight :=
  weight_decreases _ s s' a hs ha

/-- non-vacuity: two workers, three inserts (the third waits for a token), one seed goes round twice, everything drains -/
example :
    let acts : List Zeno.Model.Flow.Act := [.insert, .insert, .insert, .runTake, .runSend, .preTake, .preSend, .archTake, .archSend, .postTake, .postOutlink,
      .postSend, .finTakeOutlink, .finProduce, .finTakeSeed, .finFeedback, .srcNew, .runTake, .runSend, .runTake, .runSend, .preTake, .preTake]
    let s := Zeno.Model.Flow.run ⟨2, 2, 2⟩ {} acts
    (s.used, s.seeds, s.p, s.busy) = (2, 2, 2, true) ∧ (Zeno.Model.Flow.enabled ⟨2, 2, 2⟩ s) = [.preSend] := by
  decide +kernel

end Zeno.Props.C01
