import Zeno.Model.Contain
import Zeno.Gen.Containment
import Zeno.Gen.Stages
/-!
# C10 — no server-controlled input can crash or hang the crawler

Statements and their proofs. `C` = facts regenerated from assets.go, outlinks.go, item.go (postprocessor), archiver.go and
preprocessor/url.go; `S` from preprocessor.go. What a parser does on a given input — return, error, panic — is
outside any model of Zeno: the theorem says what each of the three costs; that the parsers neither panic outside the
two dispatchers nor spin is established by fuzzing them through the real call chain (labelled as testing).
-/
namespace Zeno.Props.C10
open Zeno.Model.Contain

abbrev C : CF := Zeno.Gen.Containment.facts
abbrev S : SF := Zeno.Gen.Stages.facts

theorem facts_ok :
    (C.assetsRecover && C.outlinksRecover && C.assetsErrorLoggedNotFatal && C.outlinksErrorLoggedNotFatal &&
     C.processBodyErrorFailsItem && C.normaliserReturnsErrors && S.preSeedNormErrorFails && S.preChildNormErrorRemoves &&
     C.postprocessItemPanics == 2) = true := by decide

/-- **Link and asset extraction**: whatever the parsers do with a body — return, fail, panic — post-processing the URL never
takes the crawler down; it costs at most that URL's links. -/
theorem c10_extraction_contained (assets outlinks : Raised) : ∀ w, postprocessItem C assets outlinks ≠ .crawler w := by
  -- a dispatcher that recovers and logs never costs the crawler, and `worst` invents no such cost
  have hd (name : String) (r : Raised) (w : String) : dispatcher true true name r ≠ .crawler w := by
    cases r <;> nofun
  have hw (a b : Cost) (ha : ∀ w, a ≠ .crawler w) (hb : ∀ w, b ≠ .crawler w) (w : String) : worst a b ≠ .crawler w := by
    fun_cases worst a b
    · exact absurd rfl (ha _)
    · exact absurd rfl (hb _)
    all_goals nofun
  exact hw _ _ (hd "assets" assets) (hd "outlinks" outlinks)

/-- a body that cannot be read, or a URL that cannot be normalised, costs that URL -/
theorem c10_errors_cost_one_url :
    (∀ w, processBody C .error ≠ .crawler w) ∧ (∀ w, normalise C S .error ≠ .crawler w) := by
  constructor <;> intro w
  · rw [processBody, if_pos (by decide)]
    exact Cost.noConfusion
  · rw [normalise, if_pos (by decide)]
    exact Cost.noConfusion

/-- the shape found in the pinned tree: a panic inside a parser was not recovered -/
theorem c10_unrecovered_panic_counterexample :
    postprocessItem { C with assetsRecover := false } .panic .nothing = .crawler "assets: panic not recovered" := by
  simp [postprocessItem, dispatcher, worst]

end Zeno.Props.C10
