import Zeno.Proofs.LifeFetch
import Zeno.Proofs.Stages
import Zeno.Proofs.Dedupe
import Zeno.Gen.Stages
import Zeno.Gen.Item
/-!
# C08 — seen URLs are not refetched; nothing is skipped as seen unless the store said so

The statements, each proved in a few lines from `Proofs/`. `S` = facts regenerated from seencheck.go, hq/seencheck.go and preprocessor.go, `I` from
item*.go. `seencheck` (Model/Stages.lean) is the local `SeencheckItem` over the nodes of the working depth with
the store as a value (canonical URL ↦ seed?); `hqAnswer` is crawl HQ's endpoint (answers with the values it had
not recorded, and records them); `finalStep` is what `preprocess` does with the verdicts (nodes marked seen
get no request). The canonical URL string being a function of the URL text is C09's.
-/
namespace Zeno.Props.C08
open Zeno.Model.Item Zeno.Model.Stages

abbrev S : SF := Zeno.Gen.Stages.facts
abbrev I : IF := Zeno.Gen.Item.facts

/-- the source has the shapes the model mirrors: the store is keyed by the canonical string, the asset / seed
rule, dedupe → seencheck → requests order, and crawl HQ is sent the very field that is compared afterwards -/
theorem facts_ok :
    (S.seenLocalRule && S.seenLocalKeyCanonical && S.preDedupeThenSeencheckThenRequests && S.preOnlyFreshGetRequests &&
     S.seenStoreOpenedIfEnabledAndNoHQ && S.seenHQSeedNeverChecked && S.seenHQOnlyFreshSent && S.seenHQAbsentMarkedSeen &&
     S.seenHQComparesCanonical && S.seenHQSends == "canonical") = true := by decide

/-- **Recorded ⇒ skipped** (local store). If the store holds the URL of a node of the working depth when
`SeencheckItem` starts, the node is marked seen — unless it is the seed or a redirect target and the URL had only
been recorded as an asset. Holds for every store content, tree and node list. -/
theorem c08_recorded_is_skipped (t : Tree) (seen : Seen) (items : List Info) (i : Info) (hi : i ∈ items) (w : Bool)
    (hw : seen.lookup i.url = some w) (hex : w = true ∨ checkedAsSeed t i = false) :
    i.id ∈ (seencheck t items seen).2 :=
  scFold_must_skip t seen items (seen, []) (Ext.refl _) i hi w hw hex

/-- **Skipped ⇒ the store said so** (local store). A node is marked seen only if its URL was in the store when it
was looked up: recorded before this call, or by an earlier node of this call. -/
theorem c08_skipped_only_if_recorded (t : Tree) (seen : Seen) (items : List Info) (x : String)
    (h : x ∈ (seencheck t items seen).2) :
    ∃ pre i suf, items = pre ++ i :: suf ∧ i.id = x ∧ (i.url ∈ seen.map Prod.fst ∨ i.url ∈ pre.map (·.url)) :=
  (scFold_skip_only_reported t items (seen, []) x h).resolve_left List.not_mem_nil

/-- **The store only grows**: what was recorded stays recorded, across any number of checks, and a "seed" record is
never downgraded. -/
theorem c08_store_monotone (t : Tree) (seen : Seen) (items : List Info) (u : String) (b : Bool) (h : seen.lookup u = some b) :
    ∃ b', (seencheck t items seen).1.lookup u = some b' ∧ (b = true → b' = true) :=
  (scFold_mono t items (seen, [])).1 u b h

/-- every checked URL is recorded afterwards -/
theorem c08_checked_is_recorded (t : Tree) (seen : Seen) (items : List Info) (i : Info) (hi : i ∈ items) :
    ∃ b, (seencheck t items seen).1.lookup i.url = some b :=
  scFold_records t items (seen, []) i hi

/-- **Marked seen ⇒ no request**, whichever store answered: the final loop of `preprocess` builds requests only for
nodes not in the list of verdicts. -/
theorem c08_seen_gets_no_request (t2 : Tree) (sr : Seen × List String) (d : Nat) :
    ∀ x ∈ (finalStep t2 sr d).2.2.1, x ∉ sr.2 :=
  fun _ hx => (mem_finalStep hx).1

/-- … and so, in `preprocess` itself (local store, seencheck enabled): whatever the seencheck of this pass marks seen is not
among the nodes a request is built for. -/
theorem c08_preprocess_skips_seen (cfg : Cfg) (seen : Seen) (t2 : Tree) (d : Nat) (hq : cfg.useHQ = false) (hs : cfg.useSeencheck = true) :
    ∀ x ∈ (preTail S cfg seen t2 d).2.2.1, x ∉ (seencheck t2 (t2.atLevel d) seen).2 :=
  preTail_seen_not_requested S cfg seen t2 d hq hs

/-- **crawl HQ**: the value sent for a node is the value compared with HQ's answer (both the canonical string) -/
theorem c08_hq_fields_agree (i : Info) : hqSendKey S i = hqCmpKey S i := by
  rw [hqSendKey, hqCmpKey, if_pos (by decide), if_pos (by decide)]

/-- **crawl HQ**: a fresh node is treated as seen exactly when HQ had recorded the value sent for it; HQ answers
with exactly the values it had not recorded. -/
theorem c08_hq_skipped_iff_reported (items : List Info) (hq : Seen) (i : Info) (hi : i ∈ items) (hf : i.st = .fresh) :
    (hqCmpKey S i ∉ (hqAnswer hq (hqSent S items)).2) ↔ (hq.lookup (hqSendKey S i)).isSome = true :=
  hq_marked_iff S c08_hq_fields_agree items hq i hi hf

/-- within one tree, after `DedupeItems`, no URL is carried by two non-seed nodes (node ids being unique) -/
theorem c08_one_node_per_url (i : Info) (k : Forest) (hid : (k.flatten.map (·.id)).Nodup) :
    ((dedupe I (.node i k)).kids.flatten.map (·.url)).Nodup :=
  dedupe_nodup I i k hid

/-- non-vacuity: the same URL as asset, again as asset (skipped), then as a seed (promotion), then as a seed again (skipped) -/
example :
    let a : Info := { id := "a", url := "http://x.example/i.png", st := .fresh }
    let t : Tree := .node { id := "s", url := "http://x.example/", st := .gotChildren } (.cons (.node a .nil) .nil)
    let seedT : Tree := .node { id := "a", url := "http://x.example/i.png", st := .fresh } .nil
    let s1 := seencheck t [a] []
    let s2 := seencheck t [a] s1.1
    let s3 := seencheck seedT [a] s2.1
    let s4 := seencheck seedT [a] s3.1
    (s1.2, s2.2, s3.2, s4.2) = ([], ["a"], [], ["a"]) := by decide

/-! ## across all the passes of a seed

`lifeReqs` (Proofs/LifeFetch.lean) lists, pass after pass of a seed's life through the stage models (Model/Life.lean), the non-seed
nodes that get a request, as (id, canonical URL). -/

theorem life_facts_ok : (okPost S && okSets I && okDedupe I && !(S.preSeencheckGuard == "always")) = true := by decide

/-- **Within one seed's tree no URL is fetched by two different non-seed nodes — in any pass, nor across passes.** Whatever the
normaliser, the site and the extractors answer in whichever pass (domains-crawl off, node ids distinct): the canonical URLs of all
the requests made for non-seed nodes during the seed's life are pairwise distinct. (De-duplication makes the URLs below the seed
distinct before any request is built; a node that was processed once is never removed — the filters and the de-duplication drop
Fresh nodes only — so it is still there, with its URL, when a later duplicate shows up, and wins.) -/
theorem c08_no_url_fetched_twice (cfg : Cfg) (hdc : cfg.domainsCrawl = false) (os : List Zeno.Model.Life.Oracle) (seen : Seen) (i : Info)
    (hf : i.st = .fresh) (hr : i.redirects = 0)
    (hids : Zeno.Model.Life.idsOK S I cfg os seen (.node i .nil) = true) :
    ((Zeno.Model.Life.lifeReqs S I cfg os seen (.node i .nil)).map Prod.snd).Nodup := by
  have hF := life_facts_ok
  simp only [Bool.and_eq_true, Bool.not_eq_true'] at hF
  obtain ⟨⟨⟨hS, hI⟩, hD⟩, hg⟩ := hF
  -- a lone seed has no other node, and no request is on record yet
  exact Zeno.Model.Life.life_fetch S hS hg I hI hD cfg hdc os seen 0 _ [] (Zeno.Model.Life.start_seed cfg.maxRedirect i hf hr)
    (Tree.wp_zero _) (List.forall_mem_nil _) hids ⟨.nil, List.forall_mem_nil _⟩

/-- non-vacuity: a page with two images, the second of which redirects to the first one's URL — fetched once -/
example :
    let seed : Tree := .node { id := "s", url := "", st := .fresh, raw := "r" } .nil
    let nr (u : String) : Option NormRes := some { canon := u, host := "h.x", path := "/x" }
    let o1 : Zeno.Model.Life.Oracle :=
      { norm := fun id => if id == "s" then nr "u" else if id == "k1" then nr "a" else if id == "k2" then nr "b" else nr "a",
        srv := fun id => if id == "s" then some { status := 200, html := true, body := true } else if id == "k2" then some { status := 302, loc := "a" } else some { status := 200 },
        ex := fun id => if id == "s" then { assets := [("k1", "a"), ("k2", "b")] } else if id == "k2" then { assets := [("k3", "a")] } else {} }
    Zeno.Model.Life.lifeReqs S I {} [o1, o1, o1, o1] [] seed = [("k1", "a"), ("k2", "b")] ∧
    Zeno.Model.Life.idsOK S I {} [o1, o1, o1, o1] [] seed = true := by
  decide +kernel

end Zeno.Props.C08
