import Zeno.Proofs.Stages
import Zeno.Proofs.Depth
import Zeno.Proofs.Life
import Zeno.Proofs.LifeLevels
import Zeno.Proofs.Warc
import Zeno.Gen.Stages
import Zeno.Model.Scope
import Zeno.Gen.Item
import Zeno.Gen.Archiver
/-!
# C06 — the work per seed is bounded: redirects, asset depth, retries and hops

The statements, each proved in a few lines from `Proofs/`; that the translated tests are the model's (last section) is
proved here. `S` = facts regenerated from postprocessor/item.go, outlinks.go, assets.go;
`A` = facts regenerated from archiver.go. `postAct` (Model/Stages.lean) is the decision of
`postprocessItem` for one Archived node whose depth-without-redirections is `dnr`; `postprocess`
applies it to every node at the working depth; `ex` is an arbitrary extractor result (whatever
the site serves).
-/
namespace Zeno.Props.C06
open Zeno.Model.Item Zeno.Model.Stages Zeno.Model.Warc Zeno.Model.Life

abbrev S : SF := Zeno.Gen.Stages.facts
abbrev A : AF := Zeno.Gen.Archiver.facts

theorem facts_ok : okPost S = true := by decide

theorem facts_retry_ok :
    (A.retryStartsAtZero && A.retryIncrements && A.retryCounterOnlyInHeader && A.retryLoopOp == .le &&
     A.retryInnerOp == .lt && A.oneRequestPerIteration &&
     A.failedStatusOnExhaustion && A.onlyPreProcessedFetched && A.workAtMaxDepth) = true := by decide

/-- **Redirect chains.** A redirect is followed only from a node that has fewer than `--max-redirect`
redirects behind it; the target carries exactly one more, so never more than `--max-redirect`; it
inherits the page's hops. Server behaviour (`ex`, the response in `i`) is arbitrary. -/
theorem c06_redirect_bound (cfg : Cfg) (ex : String → Extract) (i : Info) (dnr : Int) (c : Info)
    (h : postAct S cfg ex i dnr = .redirect c) :
    i.redirects < cfg.maxRedirect ∧ c.redirects = i.redirects + 1 ∧ c.redirects ≤ cfg.maxRedirect ∧ c.hops = i.hops :=
  redirect_child S facts_ok cfg ex i dnr c h

/-- **Asset depth.** Without `--domains-crawl`, a node more than two levels below the page (redirections
not counted) is completed without looking at its body: it gets no children and yields no outlinks.
So the deepest node that can be created by extraction is three levels below the page. -/
theorem c06_no_extraction_below_depth_two (cfg : Cfg) (ex : String → Extract) (i : Info) (dnr : Int)
    (hdc : cfg.domainsCrawl = false) (hd : 2 < dnr) :
    postAct S cfg ex i dnr = .complete ∨ ∃ c, postAct S cfg ex i dnr = .redirect c :=
  no_extraction_beyond_depth S facts_ok cfg ex i dnr hdc hd

/-- … read the other way round: whenever extraction produces asset children or outlinks (domains-crawl off), the node sits
at most two levels below the page, so a child is at most three levels below it. -/
theorem c06_children_only_down_to_level_three (cfg : Cfg) (ex : String → Extract) (i : Info) (dnr : Int) (kids : List Info)
    (outs : List Outlink) (hdc : cfg.domainsCrawl = false) (h : postAct S cfg ex i dnr = .extract kids outs) : dnr + 1 ≤ 3 := by
  have hh : ¬ 2 < dnr := fun hd => by
    simpa [h] using c06_no_extraction_below_depth_two cfg ex i dnr hdc hd
  omega

/-- **Asset depth as an invariant of the whole tree.** `levelsOK` = every node that still has pending work in its
subtree (itself Fresh / PreProcessed / Archived, or a descendant) sits at most three levels below the page, redirections
not counted. A lone seed satisfies it; `archive` keeps it; `postprocess` — the only place where nodes are created — keeps
it whenever domains-crawl is off, whatever the site served. (`preprocess` only removes nodes and changes Fresh into Seen /
PreProcessed; completion marking relabels finished subtrees only. For whole passes: `start_levels` (Proofs/LifeLevels) with
`pass_progress` — in every tree a pass starts with, each node is at most three asset levels below the seed.) -/
theorem c06_depth_invariant (cfg : Cfg) (hdc : cfg.domainsCrawl = false) (ex : String → Extract) (srv : String → Option Outcome) (t : Tree)
    (h : t.levelsOK 0 true = true) :
    (postprocess S cfg ex t).1.levelsOK 0 true = true ∧ (archive srv t).levelsOK 0 true = true ∧
    (∀ i : Info, (Tree.node i .nil).levelsOK 0 true = true) :=
  ⟨Tree.post_levelsOK S facts_ok cfg hdc ex _ _ 0 true t h, Tree.archive_levelsOK srv _ _ 0 true t h, seed_levelsOK⟩

/-- **Hops.** Assets inherit the page's hops. An outlink matching `--domains-crawl` is queued with hops 0;
any other outlink is queued only from a page with fewer than `--max-hops` hops, with the page's hops + 1.
Every outlink names the page as its via. -/
theorem c06_hops (cfg : Cfg) (ex : String → Extract) (i : Info) (dnr : Int) (kids : List Info) (outs : List Outlink)
    (h : postAct S cfg ex i dnr = .extract kids outs) :
    (∀ k ∈ kids, k.hops = i.hops ∧ k.redirects = 0) ∧
    (∀ o ∈ outs, o.via = i.url ∧
      ((cfg.domainsCrawl = true ∧ o.raw ∈ cfg.dcMatch ∧ o.hops = 0) ∨ (o.hops = i.hops + 1 ∧ i.hops < cfg.maxHops))) :=
  extraction_hops S facts_ok cfg ex i dnr kids outs h

/-- **Whole tree, every pass.** If every node of a seed's tree has at most `--max-redirect` redirects and the
seed's hops, the same is true after `postprocess` — whatever was archived and whatever the extractors found.
(Preprocessing and archiving create no nodes; a seed starts with 0 redirects.) -/
theorem c06_tree_bounded (cfg : Cfg) (ex : String → Extract) (hops : Nat) (t : Tree)
    (h : ∀ j ∈ t.flatten, j.redirects ≤ cfg.maxRedirect ∧ j.hops = hops) :
    ∀ j ∈ (postprocess S cfg ex t).1.flatten, j.redirects ≤ cfg.maxRedirect ∧ j.hops = hops :=
  postprocess_bounded S facts_ok cfg ex hops t h

/-- **Retries.** A URL whose every attempt fails is attempted exactly `--max-retry + 1` times per visit. -/
theorem c06_attempts (maxRetry : Nat) : attempts A maxRetry = maxRetry + 1 :=
  attempts_le A (by decide) maxRetry

/-- **Retries, any site.** One visit of a URL sends at most `--max-retry + 1` requests, whatever the site does on
each attempt (no response, bad status, challenge page, good response, in any order). `visit` is the retry loop
of `archive()` with its operators, start value and step read from the source. -/
theorem c06_visit_bound (maxRetry : Nat) (site : Nat → Attempt) : (visit A maxRetry site).1 ≤ maxRetry + 1 :=
  visit_bound A (by decide) maxRetry site

/-- … and the visit always ends with a verdict: the node is Failed, or a response is kept. -/
theorem c06_visit_ends (maxRetry : Nat) (site : Nat → Attempt) : (visit A maxRetry site).2 ≠ .fellThrough := by
  rw [visit, if_pos (by decide)]
  exact visitFrom_ends A (by decide) (by decide) maxRetry site _ 0 0 (Nat.zero_le _) (Nat.le_succ _)

/-- non-vacuity of the visit model: reset, 503, then 200 with max-retry 2 → three requests, kept; with max-retry 1 → two, Failed -/
example :
    let site : Nat → Attempt := fun n => if n == 0 then .netErr else if n == 1 then .resp 503 false else .resp 200 false
    visit A 2 site = (3, .ok 200) ∧ visit A 1 site = (2, .failed) ∧ visit A 0 site = (1, .failed) := by decide

/-- non-vacuity: a redirect at the limit is not followed, one below is; an asset found three levels down is not expanded -/
example :
    let i : Info := { id := "n", url := "http://a.example/", st := .archived, resp := 302, loc := "/x", redirects := 2, hops := 1 }
    (match postAct S { maxRedirect := 3 } (fun _ => { assets := [("c1", "/x")] }) i 0 with | .redirect c => c.redirects == 3 && c.hops == 1 | _ => false) = true ∧
    (match postAct S { maxRedirect := 2 } (fun _ => {}) i 0 with | .complete => true | _ => false) = true ∧
    (match postAct S {} (fun _ => { assets := [("c1", "/y")] }) { i with resp := 200, body := true } 3 with | .complete => true | _ => false) = true ∧
    (match postAct S { maxHops := 2 } (fun _ => { assets := [("c1", "/y")], outlinks := ["http://b.example/"] }) { i with resp := 200, body := true } 0 with
      | .extract kids outs => kids.length == 1 && outs == [{ raw := "http://b.example/", hops := 2, via := "http://a.example/" }] | _ => false) = true := by
  decide

/-! ## every seed leaves the pipeline after a bounded number of passes

`pass` (Model/Life.lean) is one trip of a seed's tree through the stage models — `preprocess`, `archive`, `postprocess`,
the finisher's decision — with arbitrary oracles (`Oracle`: what the normaliser accepts, what the site answers, what the
extractors find); `life` repeats it until the finisher lets the seed go. `idsOK` says that the nodes created along the way
get ids not yet used in the tree (they are UUIDs). `Start R d t` (Proofs/Life.lean) is the shape of a tree at the start of a
pass: depth `d`, all pending nodes Fresh and on level `d`, ranked (chains of at most `R` redirects, at most three asset
levels). -/

abbrev I : IF := Zeno.Gen.Item.facts

theorem facts_life_ok : (okPost S && okSets I && !(S.preSeencheckGuard == "always")) = true := by decide

/-- **One pass either ends the seed's life or deepens its tree by exactly one level** (domains-crawl off); and
`preprocess` never meets a node it would panic on. Whatever the site and the extractors return. -/
theorem c06_pass_finishes_or_deepens (cfg : Cfg) (hdc : cfg.domainsCrawl = false) (o : Oracle) (seen : Seen) (d : Nat) (t : Tree)
    (h : Start cfg.maxRedirect d t) (hid : passIds S I cfg o seen t = true) :
    (pass S I cfg o seen t).pre = .ok ∧
      ((pass S I cfg o seen t).act = .finish ∨
       ((pass S I cfg o seen t).act = .feedback ∧ (pass S I cfg o seen t).tree.maxDepth = d + 1 ∧
         Start cfg.maxRedirect (d + 1) (pass S I cfg o seen t).tree)) := by
  obtain ⟨hS, hI, hg⟩ := life_facts facts_life_ok
  obtain ⟨h1, h2⟩ := pass_progress S hS hg I hI cfg hdc o seen h hid
  exact ⟨h1, h2.imp_right fun ⟨h2, h3⟩ => ⟨h2, h3.depth, h3⟩⟩

/-- **No tree in start-of-pass shape is deeper than `4 · max-redirect + 3`**: at most three asset levels below the page,
each reached through at most `max-redirect` redirects, and as many before the page itself. -/
theorem c06_depth_le (R d : Nat) (t : Tree) (h : Start R d t) : t.maxDepth ≤ 4 * R + 3 :=
  rk_depth_bound R t h.rank

/-- **Every seed finishes after a bounded number of pipeline passes.** A seed entering the pipeline (a lone Fresh node) is
let go by the finisher after at most `4 · max-redirect + 4` passes — for every site behaviour, every extractor result and
every normaliser verdict in every pass (domains-crawl off). -/
theorem c06_seed_finishes_within (cfg : Cfg) (hdc : cfg.domainsCrawl = false) (os : List Oracle) (seen : Seen) (i : Info)
    (hf : i.st = .fresh) (hr : i.redirects = 0) (hids : idsOK S I cfg os seen (.node i .nil) = true)
    (hlen : 4 * cfg.maxRedirect + 4 ≤ os.length) :
    (life S I cfg os seen (.node i .nil)).2.isSome = true ∧ (life S I cfg os seen (.node i .nil)).1 ≤ 4 * cfg.maxRedirect + 4 := by
  obtain ⟨hS, hI, hg⟩ := life_facts facts_life_ok
  exact life_bounded S hS hg I hI cfg hdc os seen 0 _ (start_seed cfg.maxRedirect i hf hr) hids (by rwa [Nat.zero_add])

/-- non-vacuity: a page with one image (two passes), and a redirect chain cut at `--max-redirect 1` (two passes, the second hop is
not followed); ids stay distinct -/
example :
    let seed : Tree := .node { id := "s", url := "", st := .fresh, raw := "r" } .nil
    let nr (u : String) : Option NormRes := some { canon := u, host := "h.x", path := "/x" }
    let o1 : Oracle := { norm := fun id => if id == "s" then nr "u" else nr "v",
                         srv := fun id => if id == "s" then some { status := 200, html := true, body := true } else some { status := 200 },
                         ex := fun id => if id == "s" then { assets := [("k", "/i")] } else {} }
    let o2 : Oracle := { norm := fun id => nr id, srv := fun _ => some { status := 302, loc := "/n" },
                         ex := fun id => { assets := [(id ++ "r", "/n")] } }
    (life S I {} [o1, o1, o1] [] seed).1 = 2 ∧ (life S I {} [o1, o1, o1] [] seed).2.isSome = true ∧
    idsOK S I {} [o1, o1, o1] [] seed = true ∧
    (life S I { maxRedirect := 1 } [o2, o2, o2, o2] [] seed).1 = 2 ∧ idsOK S I { maxRedirect := 1 } [o2, o2, o2, o2] [] seed = true := by
  decide +kernel

/-! ### the depth and capture tests as written now

`S.postEarlyGuards` = the arms of the `if / else if` chain of `postprocessItem()` that complete an archived item without extracting anything
from it, translated from the source on every run (an arm reached through `else if` carries the negation of the arms before it). -/

/-- every condition of the chain and of the two extraction guards was understood by the translator (an opaque sub-condition would make the
equalities below say nothing about the code), and then: the translated chain takes the decision the model's `postAct` takes, for **every** depth, hop limit and flag combination: an item more
than two levels below the page (redirections not counted), an HTML document found as a requisite, or anything when assets capture is off and
no hop is allowed - unless domains crawl is active -/
theorem c06_depth_tests_known :
    (S.postEarlyGuards.all PCond.known && S.wantAssetsCond.known && S.wantOutlinksCond.known && !S.postEarlyGuards.isEmpty) = true := by decide

open Zeno.Model.Scope in
theorem c06_depth_tests_translated (e : PEnv) : completesEarly S.postEarlyGuards e = modelCompletesEarly S e := by
  -- the translated arms are those of the model up to the negations `else if` adds (`or_chain3`) and the spelling of the tests
  simp only [completesEarly, modelCompletesEarly, S, Zeno.Gen.Stages.facts, List.any_cons, List.any_nil, PCond.eval, PAtom.eval,
    Cmp.eval, Bool.or_false, or_chain3]
  simp only [Bool.and_assoc, Bool.beq_eq_decide_eq, String.reduceEq, decide_false, Bool.false_or, Int.cast_ofNat_Int]
  rfl   -- what is left differs inside a `Decidable` instance only (`S.depthCut` for `2`)

open Zeno.Model.Scope in
/-- `shouldExtractAssets` and `shouldExtractOutlinks`, translated the same way, are the two guards the model's `postAct` uses: requisites are
extracted when assets capture is on and the body was kept; outlinks when domains crawl is active or the page has fewer hops than `--max-hops`
(and the body was kept) - for every hop count and hop limit -/
theorem c06_extraction_guards_translated (e : PEnv) :
    S.wantAssetsCond.eval e = (!e.disableAssets && e.body) ∧
    S.wantOutlinksCond.eval e = ((e.domainsCrawl && e.body) || (S.outlinkHopsOp.eval e.hops e.maxHops && e.body)) := by
  simp only [S, Zeno.Gen.Stages.facts, PCond.eval, PAtom.eval, Cmp.eval, Bool.or_false, and_self]

end Zeno.Props.C06
