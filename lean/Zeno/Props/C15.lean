import Zeno.Proofs.Queue
import Zeno.Gen.Queue
import Zeno.Proofs.Pipeline
import Zeno.Gen.Pipeline
import Zeno.Gen.Item
/-!
# C15 — outlinks and finish acks reach the queue intact, despite queue errors

Statements only; the proofs are in `Proofs/Queue`, `Pipeline`. `G` = facts regenerated from source/hq,
source/lq, finisher.go and postprocessor/item.go. The batcher model (`Model/Queue.lean`) is the receive →
batch → dispatch → send-with-retry pipeline that both the outlink producer and the finish acknowledger
use, for the HQ and the local queue alike; `BOp` enumerates arrivals, timer ticks, accepted and refused
sends.
-/
namespace Zeno.Props.C15
open Zeno.Model.Queue

abbrev G : Facts := Zeno.Gen.Queue.facts

/-- facts the HQ side rests on: the `L` letter, the fields sent / read back, size- and timer-triggered
flushes, senders that never give up, notification only after `MarkAsFinished`, via = parent URL -/
theorem facts_ok_hq : okHQ G = true := by decide

theorem facts_ok_lq : okLQ G = true := by decide

/-- the hop count survives the round trip through the queue, for every hop count -/
theorem c15_hops_roundtrip (h : Nat) : pathToHops G (hopsToPath G h) = h := hops_roundtrip G h

/-- **Transient queue errors delay but never drop deliveries**: for every sequence of arrivals, timer
ticks, accepted and refused sends — any number of failures of any kind, any batch size and fill
level — every item that arrived is delivered, in flight or being batched, exactly as often as it
arrived (senders retry for ever: facts `hq…RetriesForever`). -/
theorem c15_conservation {α} [DecidableEq α] (size : Nat) (ops : List (BOp α)) (a : α) :
    (brun G true { size := size } ops).all.count a = (received ops).count a :=
  (conservation G _ ops a).trans (Nat.zero_add _)   -- the empty batcher holds nothing

/-- … and once the failures stop, one tick plus the pending sends leave nothing behind -/
theorem c15_drains {α} (b : Batcher α) :
    let b' := brun G true b (BOp.tick :: List.replicate (b.inflight.length + 1) (BOp.sendOk 0))
    b'.batch = [] ∧ b'.inflight = [] := drains G b

/-- a sender with a give-up branch would lose a batch (what the retry facts exclude) -/
theorem c15_giveup_would_lose : (brun (α := Nat) G false { size := 1 } [.recv 7, .sendFail 0]).all = [] := giveup_loses

/-- **A URL already waiting in the local queue is not queued twice**: `ValuesNodup` (no two rows share a
value) is an invariant: one `Add` batch, with duplicates inside it or of rows already there, keeps it (here),
every other operation keeps it (next theorem). -/
theorem c15_lq_no_duplicate_value (tbl tbl' : List Row) (urls : List Row) (h : ValuesNodup tbl)
    (hs : lqAdd G tbl urls = some tbl') : ValuesNodup tbl' := lqAdd_nodup h hs

theorem c15_lq_other_ops_keep_unique (tbl : List Row) (h : ValuesNodup tbl) (n : Nat) (ids : List String) (id : String) :
    ValuesNodup (lqGet tbl n).1 ∧ ValuesNodup (lqDelete tbl ids) ∧ ValuesNodup (lqReset tbl id) ∧ ValuesNodup (lqInit G tbl) :=
  other_ops_nodup G tbl h n ids id

/-- non-vacuity: three arrivals with batch size 2, a refused send, a tick -/
example : (brun G true { size := 2 } [BOp.recv 1, .recv 2, .sendFail 0, .recv 3, .tick, .sendOk 0, .sendOk 0]).delivered
    = [[1, 2], [3]] := by decide

/-- the finisher's exits as the pipeline model has them (facts regenerated from finisher.go and pipeline.go) -/
theorem facts_ok_finisher : Zeno.Model.Pipeline.okFin Zeno.Gen.Pipeline.facts = true := by decide

/-- **Every finished seed is acknowledged to the queue by its id**: when a finisher worker finds the seed it holds
complete, the acknowledgement for exactly that id is emitted at that step and the seed leaves the pipeline —
whatever else is in flight, whatever source the seed came from and however many passes it took. -/
theorem c15_finished_seed_is_acknowledged (s : Zeno.Model.Pipeline.State) (id : String) (it : Zeno.Model.Pipeline.Item)
    (t' : Zeno.Model.Item.Tree)
    (hfind : s.items.find? (fun x => x.id == id && x.place == .fin) = some it)
    (hf : Zeno.Model.Stages.finisher Zeno.Gen.Item.facts it.tree = (t', .finish)) :
    (Zeno.Model.Pipeline.step Zeno.Gen.Pipeline.facts Zeno.Gen.Item.facts s (.finish id)).acks = (it.id, t') :: s.acks :=
  (Zeno.Model.Pipeline.finish_acks _ _ facts_ok_finisher s id it t' hfind hf).1

end Zeno.Props.C15
