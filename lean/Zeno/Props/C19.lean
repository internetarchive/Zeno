import Zeno.Proofs.Extract
import Zeno.Gen.Extractors
/-!
# C19 — structured documents yield all their links; bucket listings are fully walked

Statements only; the proofs are in `Proofs/Extract`. `E` = facts regenerated from extractor/json.go, xml.go, m3u8.go, s3.go,
utils.go, the dispatch in assets.go and the body-keeping rule of archiver/body.go. The parsers (encoding/json, encoding/xml, grafov/m3u8) are
oracles: the model works on the parsed document (`J`, token list, `Playlist`); `isURL` is the extractor's own URL test.
The S3 service is modelled by its contract: the pages of a listing partition the entries of the folder, in order.
-/
namespace Zeno.Props.C19
open Zeno.Model.Extract

abbrev E : EF := Zeno.Gen.Extractors.facts

theorem facts_ok :
    (E.extStripsFragmentThenQuery && E.extKeepsAfterLastSlash && E.extNeedsDotNotLast && E.jsonWalksStringsArraysObjects &&
     E.jsonURLOrEmbedded && E.jsonSplitByExtension && E.xmlAttrsWithHTTPPrefix && E.xmlTextPrefixOrRegex && E.xmlSplitByExtension &&
     E.m3u8Segments && E.m3u8VariantsAndAlternatives && okS3 E && E.assetDispatchOrder && E.bodyKeptForPlaylists) = true := by decide

theorem s3_ok : okS3 E = true := by decide

/-- **JSON, any nesting depth**: a string value reached by any path of array / object positions, if it is a URL, is discovered. -/
theorem c19_json_every_url_at_any_depth (o : JOracle) (fuel : Nat) (j : J) (path : List Nat) (s : String)
    (h : j.at path = some (.str s)) (hu : o.isURL s = true) : s ∈ findURLs o fuel j :=
  findURLs_complete (J.at_str_mem h) hu

/-- **JSON embedded in a string**: URLs of a document that sits, serialised, in a string value are discovered too. -/
theorem c19_json_embedded (o : JOracle) (fuel : Nat) (j j' : J) (path : List Nat) (s u : String)
    (h : j.at path = some (.str s)) (hn : o.isURL s = false) (he : o.embedded s = some j') (hu : u ∈ findURLs o fuel j') :
    u ∈ findURLs o (fuel + 1) j :=
  findURLs_embedded (J.at_str_mem h) hn he hu

/-- nothing but URLs is reported -/
theorem c19_json_only_urls (o : JOracle) (fuel : Nat) (j : J) (u : String) (h : u ∈ findURLs o fuel j) : o.isURL u = true :=
  findURLs_sound h

/-- **assets vs outlinks**: every discovered URL lands in exactly one class — asset iff its last path segment (fragment and
query dropped) has a file extension. -/
theorem c19_split (urls : List String) (u : String) (h : u ∈ urls) :
    (hasFileExtension u.toList = true → u ∈ (split urls).assets ∧ u ∉ (split urls).outlinks) ∧
    (hasFileExtension u.toList = false → u ∈ (split urls).outlinks ∧ u ∉ (split urls).assets) := by
  simp +contextual [split_assets, split_outlinks, h]

theorem c19_extension_ignores_fragment_and_query (s q f : List Char) (h1 : '#' ∉ s) (h2 : '?' ∉ s) (h3 : '#' ∉ q) :
    hasFileExtension (s ++ '?' :: q) = hasFileExtension s ∧ hasFileExtension (s ++ '#' :: f) = hasFileExtension s :=
  ⟨ext_ignores_query s q h1 h2 h3, ext_ignores_fragment s f h1⟩

/-- **XML**: every attribute value and every text node that starts with `http` is discovered, and so is every URL the strict
URL pattern finds inside other text nodes. -/
theorem c19_xml (toks : List XTok) :
    (∀ attrs v, XTok.start attrs ∈ toks → v ∈ attrs → startsHttp v = true → v ∈ xmlURLs toks) ∧
    (∀ t found, XTok.text t found ∈ toks → startsHttp t = true → t ∈ xmlURLs toks) ∧
    (∀ t found u, XTok.text t found ∈ toks → startsHttp t = false → u ∈ found → u ∈ xmlURLs toks) :=
  ⟨xml_attr_found toks, xml_text_found toks, xml_regex_found toks⟩

/-- **M3U8**: every segment of a media playlist, every variant and every alternative rendition of a master playlist. -/
theorem c19_m3u8 :
    (∀ segs u, u ∈ segs → u ≠ "" → u ∈ m3u8URIs (.media segs)) ∧
    (∀ vs v, v ∈ vs → (v.uri ≠ "" → v.uri ∈ m3u8URIs (.master vs)) ∧ (∀ a ∈ v.alternatives, a ≠ "" → a ∈ m3u8URIs (.master vs))) :=
  ⟨m3u8_segment_found, m3u8_variant_found⟩

/-- **Marker-paginated bucket**: following the marker link of every non-empty page queues exactly the objects of non-zero
size, and the walk ends (the fuel, one request per object plus one, bounds the pages and is never exhausted). -/
theorem c19_s3_marker_walk (pageSize : Nat) (objs : List Obj) :
    legacyWalk E pageSize (objs.length + 1) objs = keysOf objs :=
  legacyWalk_all s3_ok pageSize (Nat.lt_succ_self _)

/-- **list-type=2 bucket with common prefixes**: every object of non-zero size, in every folder at any depth, is queued —
also from pages that carry common prefixes next to objects. -/
theorem c19_s3_prefix_walk (pageSize : Nat) (order : List Obj → List String → List Entry)
    (hord : ∀ objs names o, o ∈ objs → Entry.obj o ∈ order objs names) (d : Dir) :
    ∀ o ∈ d.allObjects, o.key ∈ d.walk E pageSize order :=
  Dir.walk_complete E s3_ok pageSize order hord d

/-- the shape found in the pinned tree — objects only on pages without common prefixes — loses objects -/
theorem c19_s3_mixed_page_counterexample :
    objectKeys (s3V2 { E with s3V2MixedPages := "prefixesOnly" } { contents := [{ key := "a.txt", size := 3 }], prefixes := ["sub/"] }) = [] := by
  decide

/-- non-vacuity: a nested document with an embedded one; a two-level bucket -/
example :
    let o : JOracle := { isURL := startsHttp, embedded := fun s => if s == "{\"u\":\"http://e.example/x\"}" then some (.obj (.cons (.str "http://e.example/x") .nil)) else none }
    let doc : J := .obj (.cons (.arr (.cons (.str "http://a.example/f.png") (.cons (.obj (.cons (.str "http://b.example/page") .nil)) .nil)))
                    (.cons (.str "{\"u\":\"http://e.example/x\"}") (.cons (.str "no") .nil)))
    (split (findURLs o 2 doc)) = { assets := ["http://a.example/f.png"], outlinks := ["http://b.example/page", "http://e.example/x"] } := by
  decide +kernel

end Zeno.Props.C19
