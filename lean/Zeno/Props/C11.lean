import Zeno.Proofs.LifeCheck
import Zeno.Gen.Stages
import Zeno.Proofs.Dedupe
import Zeno.Gen.Item
/-!
# C11 — the item tree stays well-formed and completion is detected exactly

The statements, each proved in a few lines from `Proofs/`. `G` = facts regenerated from pkg/models/item.go and item_dedupe.go. Trees are the
mutual inductive `Tree`/`Forest` (parent/child symmetry is by construction); `flatten` lists the
nodes in the traversal order `DedupeItems` uses; `Tree.nwc` ("no-work closed") says a node that
has no work has no pending descendant — the shape every tree has between pipeline stages.
-/
namespace Zeno.Props.C11
open Zeno.Model.Item

abbrev G : Facts := Zeno.Gen.Item.facts

theorem facts_ok : ok G = true := by decide

/-- A seed is declared complete if and only if no node of its tree still awaits fetching or
post-processing (Fresh / PreProcessed / Archived). -/
theorem c11_complete_iff (t : Tree) (hw : t.nwc G = true) :
    (completeAndCheck G t).2 = true ↔ (completeAndCheck G t).1.anyPending = false :=
  complete_iff G (ok_sets facts_ok) t hw

/-- … and completion marking keeps the closure shape, so the tree can go round the pipeline again. -/
theorem c11_complete_keeps_shape (t : Tree) (hw : t.nwc G = true) : (completeAndCheck G t).1.nwc G = true :=
  complete_nwc G (ok_sets facts_ok) t hw

/-- Completion marking changes no pending status: nothing that awaits work is ever marked done. -/
theorem c11_mark_changes_nothing_pending (t : Tree) : (t.mark G).anyPending = t.anyPending :=
  Tree.mark_pending G (ok_sets facts_ok) t

/-- De-duplication leaves exactly one node per URL below the seed (ids unique). -/
theorem c11_dedupe_nodup (i : Info) (k : Forest) (hid : (k.flatten.map (·.id)).Nodup) :
    ((dedupe G (.node i k)).kids.flatten.map (·.url)).Nodup :=
  dedupe_nodup G i k hid

/-- De-duplication never discards a URL altogether: for every tree whose fresh nodes are leaves (as
consistency demands) and whose processed nodes have pairwise distinct URLs (as de-duplication at
every pass maintains), each URL below the seed is still present afterwards. -/
theorem c11_dedupe_keeps_urls (i : Info) (k : Forest) (hid : (k.flatten.map (·.id)).Nodup)
    (hfl : k.freshLeaf = true) (hu : ProcessedUnique k.flatten) :
    ∀ u ∈ k.flatten.map (·.url), u ∈ (dedupe G (.node i k)).kids.flatten.map (·.url) :=
  dedupe_keeps_urls G (ok_dedupe facts_ok) i k hid hfl hu

/-! ## Well-formedness (everything `CheckConsistency` demands) is kept by every operation the
stages perform on a seed's tree — hence, by induction, by every pipeline-shaped sequence. -/

/-- a stage giving a childless node a non-fresh status (Fresh→PreProcessed/Seen/Completed/Failed,
PreProcessed→Archived/Failed, Archived→Completed/Failed) -/
theorem c11_wf_status_change (t : Tree) (id : String) (s : Status) (hs : s ≠ .fresh)
    (hleaf : ∀ (i : Info) (k : Forest), i.id = id → k = .nil) (h : t.check G none = none) :
    (t.setStatus id s).check G none = none :=
  setStatus_leaf_consistent G t id s hs hleaf h

/-- the postprocessor adding an asset (any number) or a redirect target (to a childless node) -/
theorem c11_wf_add_child (t : Tree) (pid : String) (c : Info) (from' : Status)
    (hfrom : from' = .gotChildren ∨ from' = .gotRedirected) (hvia : c.via = false)
    (hred : from' = .gotRedirected → ∀ (i : Info) (k : Forest), i.id = pid → k = .nil)
    (h : t.check G none = none) : (t.addChild pid c from').check G none = none :=
  addChild_consistent G (ok_check facts_ok) t pid c from' hfrom hvia hred h

/-- the preprocessor removing a rejected child -/
theorem c11_wf_remove_child (t : Tree) (pid cid : String) (h : t.check G none = none) :
    (t.removeChild pid cid).check G none = none :=
  removeChild_consistent G t pid cid h

/-- de-duplication -/
theorem c11_wf_dedupe (t : Tree) (h : t.check G none = none) : (dedupe G t).check G none = none :=
  dedupe_consistent G (ok_sets facts_ok) (ok_check facts_ok) t h

/-- completion marking -/
theorem c11_wf_complete (t : Tree) (h : t.check G none = none) : (completeAndCheck G t).1.check G none = none :=
  complete_consistent G (ok_sets facts_ok) (ok_check facts_ok) t h

/-- The preference of the pinned tree (keep a Completed later node, else drop the later node) did
discard URLs (defect D12, repaired): the processed node `b` is dropped with its child `d` in favour
of the fresh duplicate `c`. -/
def d12Witness : Tree :=
  .node { id := "s", url := "root", st := .gotChildren }
    (.cons (.node { id := "a", url := "u1", st := .gotChildren }
              (.cons (.node { id := "c", url := "u2", st := .fresh } .nil) .nil))
     (.cons (.node { id := "b", url := "u2", st := .gotChildren }
              (.cons (.node { id := "d", url := "u3", st := .fresh } .nil) .nil)) .nil))

theorem c11_d12_counterexample :
    d12Witness.check G none = none ∧
    "u3" ∈ d12Witness.kids.flatten.map (·.url) ∧
    "u3" ∉ (dedupe { G with dedupePrefers := "completed" } d12Witness).kids.flatten.map (·.url) ∧
    "u3" ∈ (dedupe G d12Witness).kids.flatten.map (·.url) := by
  decide

/-- non-vacuity of the hypotheses of `c11_dedupe_keeps_urls` and `c11_complete_iff` -/
example : (d12Witness.kids.flatten.map (·.id)).Nodup ∧ d12Witness.kids.freshLeaf = true ∧ d12Witness.nwc G = true := by
  decide

/-! ## through the stages themselves

The theorems above are about the single operations of `pkg/models`. `Model/Life.lean` composes the stage models, which perform
those operations by the hundred; every stage worker runs `CheckConsistency` on the seed it receives and panics when it fails. -/

/-- **No worker's consistency check ever fails on a seed's tree**: started from a consistent tree in start-of-pass shape, the trees
that `preprocess` hands to the archiver, `archive` to the postprocessor, `postprocess` to the finisher, and the finisher back to
the reactor all pass `CheckConsistency` — whatever the normaliser, the site and the extractors answer. -/
theorem c11_stages_hand_on_consistent_trees (cfg : Zeno.Model.Stages.Cfg) (o : Zeno.Model.Life.Oracle) (seen : Zeno.Model.Stages.Seen)
    (R d : Nat) (t : Tree) (h : Zeno.Model.Life.Start R d t) (hw : t.wp d = true) (hk : t.check G none = none) :
    let p := Zeno.Model.Stages.preprocess Zeno.Gen.Stages.facts G cfg o.norm seen t
    let a := Zeno.Model.Stages.archive o.srv p.1
    let q := Zeno.Model.Stages.postprocess Zeno.Gen.Stages.facts cfg o.ex a
    p.1.check G none = none ∧ a.check G none = none ∧ q.1.check G none = none ∧
      (Zeno.Model.Life.pass Zeno.Gen.Stages.facts G cfg o seen t).tree.check G none = none :=
  Zeno.Model.Life.pass_consistent Zeno.Gen.Stages.facts (by decide) G (ok_sets facts_ok) (ok_check facts_ok) cfg o seen h hw hk

/-- … and over a whole life (domains-crawl off): the tree with which the seed finally leaves the pipeline is consistent too. -/
theorem c11_life_is_consistent (cfg : Zeno.Model.Stages.Cfg) (hdc : cfg.domainsCrawl = false) (os : List Zeno.Model.Life.Oracle)
    (seen : Zeno.Model.Stages.Seen) (i : Info) (hf : i.st = .fresh) (hr : i.redirects = 0) (hv : i.via = false)
    (hids : Zeno.Model.Life.idsOK Zeno.Gen.Stages.facts G cfg os seen (.node i .nil) = true) (t' : Tree)
    (hfin : (Zeno.Model.Life.life Zeno.Gen.Stages.facts G cfg os seen (.node i .nil)).2 = some t') : t'.check G none = none := by
  refine Zeno.Model.Life.life_consistent Zeno.Gen.Stages.facts (by decide) (by decide) G (ok_sets facts_ok) (ok_check facts_ok) cfg hdc os seen 0 _
    (Zeno.Model.Life.start_seed cfg.maxRedirect i hf hr) (Tree.wp_zero _) ?_ hids t' hfin
  simp [Tree.check, Forest.length, Forest.check, checkNode, c1, c2, c3, c4, c5, hf, hv, badParent]

end Zeno.Props.C11
