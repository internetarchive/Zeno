import Zeno.Proofs.RateLimiter
import Zeno.Proofs.RateProg
import Zeno.Gen.RateLimiter
import Zeno.Gen.Archiver
/-!
# C13 — per-host politeness: bounded request rate and honoured back-off penalties

Statements, with short proofs from `Proofs/RateLimiter` and `Proofs/RateProg`.
`G` = the facts regenerated from the ratelimiter package with the two repaired expressions switched on
(`Facts.modelled`); that the methods as written compute this model is `c13_code_is_model` below. The bucket is modelled over
exact rationals; an event list is a list of (time, event) with non-decreasing times (`Timed`).
-/
namespace Zeno.Props.C13
open Zeno.Model.RateLimiter

abbrev G : Facts := Facts.modelled Zeno.Gen.RateLimiter.facts

theorem facts_ok : ok G = true := by decide +kernel

theorem consts_ok : okConsts G = true := (ok_parts facts_ok).1
theorem fixes_ok : okFixes G = true := (ok_parts facts_ok).2.1

/-- a fresh bucket satisfies the invariant (capacity ≥ 0, configured rate ≥ 0) -/
theorem c13_new_inv (cap rate now : Rat) (hc : 0 ≤ cap) (hr : 0 ≤ rate) : Inv (TB.new cap rate now) :=
  ⟨hc, Rat.le_refl, hr, Std.min_le_right, Rat.le_refl, fun h => absurd h Rat.lt_irrefl⟩

/-- Token count stays within [0, capacity]; refill rate never exceeds the configured rate nor falls
below the lower of 0.5/s and that rate — after every event, at any time. -/
theorem c13_range (b : TB) (now : Rat) (e : Ev) (h : Inv b) :
    let b' := (step G b now e).1
    0 ≤ b'.tokens ∧ b'.tokens ≤ b'.cap ∧ min (1 / 2) b'.ideal ≤ b'.rate ∧ b'.rate ≤ b'.ideal ∧ Inv b' := by
  have := step_inv G consts_ok fixes_ok b now e h
  exact ⟨this.t0, this.tc, this.rlo, this.rhi, this⟩

/-- Over any window of length T the limiter releases at most capacity + T × configured-rate
requests: for every bucket state reachable before the window, every event sequence and timing. -/
theorem c13_window_bound (evs : List (Rat × Ev)) (b : TB) (a T : Rat) (h : Inv b) (hl : b.last ≤ a)
    (hT : 0 ≤ T) (ht : Timed a (a + T) evs) : ((run G b evs).2 : Rat) ≤ b.cap + T * b.ideal :=
  window_bound consts_ok fixes_ok h hl hT ht

/-- After a 429, 403, 408 or 425 at time `t0` (the bucket's `n`-th consecutive failure, `n = fails + 1`)
no request is released at any time in `[t0, t0 + min(5·2^(n-1), 30) s)`, whatever happens meanwhile. -/
theorem c13_penalty_honoured (b : TB) (t0 : Rat) (st : Nat) (hst : st = 429 ∨ st = 403 ∨ st = 408 ∨ st = 425)
    (evs : List (Rat × Ev)) (ht : TimedLt t0 (t0 + penalty G (b.fails + 1)) evs) :
    (run G (onFailure G b t0 st) evs).2 = 0 :=
  penalty_honoured consts_ok fixes_ok
    ((Zeno.Model.RateProg.isPenalised_G st).trans (decide_eq_true hst)) ht

/-- the penalty is 5 s, doubling with every further failure, capped at 30 s — for every `n` -/
theorem c13_penalty_value (n : Nat) :
    penalty G n = nsToSec (min ((5000000000 : Int) * 2 ^ (n - 1)) 30000000000) :=
  penalty_eq consts_ok fixes_ok n

example : penalty G 1 = 5 ∧ penalty G 2 = 10 ∧ penalty G 3 = 20 ∧ penalty G 4 = 30 ∧ penalty G 64 = 30 := by
  refine ⟨?_, ?_, ?_, ?_, ?_⟩ <;> rw [c13_penalty_value] <;> decide +kernel

/-- 5xx responses only lower the rate (a 429-class failure leaves it alone) … -/
theorem c13_failure_only_lowers (b : TB) (now : Rat) (st : Nat) (h : Inv b) : (onFailure G b now st).rate ≤ b.rate :=
  failure_rate consts_ok fixes_ok b now st h

/-- … and successes only raise it back toward, never above, the configured rate. -/
theorem c13_success_only_raises (b : TB) (now : Rat) (h : Inv b) :
    b.rate ≤ (onSuccess G b now).rate ∧ (onSuccess G b now).rate ≤ b.ideal :=
  success_rate consts_ok b now h

/-- The per-host limiter table never holds more than max(maxBuckets, 1) buckets, for every access
sequence of non-empty hosts shorter than 2^31 − 1 (C16 uses this). -/
theorem c13_table_bounded (m : Nat) (hosts : List String) (hh : ∀ x ∈ hosts, x ≠ "")
    (hk : hosts.length < 2147483647) : (hosts.foldl (getBucket G m) []).length ≤ max m 1 :=
  table_bounded (ok_parts facts_ok).2.2 m hosts [] 0 hh (by rwa [Nat.zero_add]) ⟨Nat.zero_le _, List.forall_mem_nil _⟩

/-- non-vacuity: a concrete run that releases, refuses, is penalised and recovers -/
example : (run G (TB.new 1 1 0) [(0, .try), (0, .try), (1, .fail 429), (3, .try), (6, .try), (7, .try)]).2 = 2 := by
  decide +kernel

/-- the one place that uses the limiter, `archive()`, addresses a host's bucket by the same key when it waits, when it reports a
failure and when it reports a success (so the penalties proved above land on the bucket the next request waits on) -/
theorem call_sites_ok : Zeno.Gen.Archiver.facts.limiterKeysAgree = true := by decide

/-! ### the code as written now

`Gen.RateProg.facts` holds `refill`, one attempt of `Wait`, `adjustOnFailure`, `onSuccess` and `newTokenBucket` translated statement
by statement from the source on every run (tools/facts/sec_arith.go); `Model/RateProg.lean` gives the translated statements their
meaning. The theorems below say that these programs compute exactly the model functions used above — so every statement of this
file is also a statement about the translated code — and restate the two headline bounds directly over the translated programs. -/

open Zeno.Model.RateProg in
/-- nothing in the translated methods is opaque to the translator, and each computes the model function: for every bucket, time, status -/
theorem c13_code_is_model (b : TB) (now : Rat) (st : Nat) (cap rate : Rat) :
    runRefill P b now = some (refill b now) ∧
    runWaitAttempt P b now = some (tryAcquire G b now) ∧
    runOnFailure P b now st = some (onFailure G b now st) ∧
    runOnSuccess P b now = some (onSuccess G b now) ∧
    runNew P cap rate now = some (TB.new cap rate now) :=
  ⟨refill_translated b now, wait_translated b now, failure_translated b now st, success_translated b now, new_translated cap rate now⟩

open Zeno.Model.RateProg in
/-- every field access of the translated methods happens with the bucket's mutex held; no method sleeps or returns holding it -/
theorem c13_lock_discipline : lockOK P = true := by decide

open Zeno.Model.RateProg in
/-- the window bound, over the translated programs: a bucket made by the translated constructor and driven by the translated
methods releases at most capacity + T × configured-rate requests in any window of length T -/
theorem c13_window_bound_code (evs : List (Rat × Ev)) (b : TB) (a T : Rat) (h : Inv b) (hl : b.last ≤ a)
    (hT : 0 ≤ T) (ht : Timed a (a + T) evs) :
    ∃ b' n, runProg P b evs = some (b', n) ∧ (n : Rat) ≤ b.cap + T * b.ideal :=
  ⟨_, _, run_translated evs b, c13_window_bound evs b a T h hl hT ht⟩

open Zeno.Model.RateProg in
/-- the penalty, over the translated programs: after the translated `adjustOnFailure` ran with a 429 / 403 / 408 / 425 at `t0`,
the translated `Wait` releases nothing before `t0 + min(5·2^(n-1), 30) s` -/
theorem c13_penalty_honoured_code (b : TB) (t0 : Rat) (st : Nat) (hst : st = 429 ∨ st = 403 ∨ st = 408 ∨ st = 425)
    (evs : List (Rat × Ev)) (ht : TimedLt t0 (t0 + penalty G (b.fails + 1)) evs) :
    ∃ b1 b2, runOnFailure P b t0 st = some b1 ∧ runProg P b1 evs = some (b2, 0) :=
  ⟨_, _, failure_translated b t0 st,
    (run_translated evs _).trans (congrArg some (Prod.ext rfl (c13_penalty_honoured b t0 st hst evs ht)))⟩

end Zeno.Props.C13
