import Zeno.Model.Reactor
/-!
The sequential reactor: token accounting for every history of calls (`Good`) and, under the client discipline `Disc`,
every tracked seed queued or held exactly once (`Lin`), so that `input` always has room. A property of the state after
a step is proved branch by branch over `step_live`, with `fst_ite`.
-/
namespace Zeno.Model.Reactor

/-- the proofs use `okTokens` and, for `frozen_insert` / `frozen_feedback`, the two `…ChecksClosedFirst`; the other conjuncts pin the
shapes of reactor.go that `Model/Reactor` assumes -/
def ok (F : Facts) : Bool :=
  F.tokenCapIsMax && F.inputCapIsMax && F.insertSeq == ["acquire", "loadOrStore", "enqueue"] &&
  F.insertAcquireCancellable && F.insertChecksClosedFirst && F.insertPanicsOnDuplicate &&
  F.feedbackUpdate == "loadCas" && F.feedbackChecksClosedFirst && F.feedbackEnqueueCancellable &&
  F.feedbackTakesNoToken && F.finishSeq == ["loadAndDelete", "release"] && F.finishReleaseOnlyIfLoaded &&
  F.runDeliverCancellable && F.freezeCancelsFreezeCtx && F.freezeCtxChildOfCtx &&
  F.stopSeq == ["globalReactor.cancel", "wg.Wait", "close"]

def okTokens (F : Facts) : Bool := F.feedbackUpdate == "loadCas"

theorem ok_tokens {F : Facts} (h : ok F = true) : okTokens F = true := by
  simp only [ok, Bool.and_eq_true] at h
  simp only [okTokens, h]

def Live (r : R) : Prop := r.dead = false ∧ r.started = true

theorem step_start (F : Facts) (r : R) (n : Nat) : step F r (.start n) =
    if r.started then (r, .rejected, []) else ({ R.init with started := true, cap := n }, .ok, []) := rfl

theorem step_gate (F : Facts) {r : R} (hl : ¬ Live r) {op : Op} (hop : ∀ n, op ≠ .start n) :
    step F r op = (r, if r.dead then .dead else .notinit, []) := by
  cases op with
  | start n => exact absurd rfl (hop n)
  | _ =>
    cases hd : r.dead with
    | true => exact if_pos hd
    | false =>
      cases hs : r.started with
      | true => exact absurd ⟨hd, hs⟩ hl
      | false => exact (if_neg (ne_true_of_eq_false hd)).trans (if_pos (congrArg not hs))

theorem step_live (F : Facts) {r : R} (hl : Live r) (op : Op) : step F r op =
    match op with
    | .start _ => (r, .rejected, [])
    | .insert x =>
      if r.frozen && (F.insertChecksClosedFirst || !(decide (r.tokens < r.cap))) then (r, .frozen, [])
      else if r.tokens < r.cap then ((insertBody r x).1, (insertBody r x).2, [])
      else ({ r with blockedIns := r.blockedIns ++ [x] }, .blocked, [])
    | .feedback x =>
      if F.feedbackChecksClosedFirst && r.frozen then (r, .frozen, []) else
      if x ∉ r.table then
        if F.feedbackUpdate == "swap" then ({ r with table := r.table ++ [x] }, .notpresent, [])
        else (r, .notpresent, [])
      else if r.frozen && (F.feedbackChecksClosedFirst || !r.room) then (r, .frozen, [])
      else if r.room then ({ r with queue := r.queue ++ [x], held := r.held.erase x }, .ok, [])
      else ({ r with dead := true }, .blocked, [])
    | .finish x =>
      if x ∈ r.table then
        if r.tokens = 0 then ({ r with table := r.table.erase x, dead := true }, .blocked, [])
        else
          let r := { r with table := r.table.erase x, tokens := r.tokens - 1, held := r.held.erase x }
          match r.blockedIns with
          | y :: rest =>
            ((insertBody { r with blockedIns := rest } y).1, .ok, [(y, (insertBody { r with blockedIns := rest } y).2)])
          | [] => (r, .ok, [])
      else (r, .notfound, [])
    | .freeze => ({ r with frozen := true, blockedIns := [] }, .ok, r.blockedIns.map (·, .rejected))
    | .stop => ({ R.init with }, .ok, r.blockedIns.map (·, .rejected))
    | .recv =>
      match r.queue with
      | x :: q => ({ r with queue := q, held := r.held ++ [x] }, .item x, [])
      | [] => (r, .empty, []) := by
  cases op with
  | start n => exact if_pos hl.2
  | _ => exact (if_neg (ne_true_of_eq_false hl.1)).trans (if_neg (by rw [hl.2]; exact Bool.noConfusion))

theorem fst_ite {α β} {P : α → Prop} {c : Prop} [Decidable c] {a b : α × β} (ha : c → P a.1) (hb : ¬c → P b.1) :
    P (if c then a else b).1 := by
  split
  · exact ha ‹_›
  · exact hb ‹_›

theorem step_fst_ind {P : R → Prop} (F : Facts) {r : R} (op : Op) (hr : P r)
    (hs : ∀ n, P { R.init with started := true, cap := n }) (hl : Live r → P (step F r op).1) : P (step F r op).1 := by
  by_cases hlv : Live r
  · exact hl hlv
  cases op with
  | start n => rw [step_start]; exact fst_ite (fun _ => hr) fun _ => hs n
  | _ => rw [step_gate F hlv (fun _ => Op.noConfusion)]; exact hr

theorem nodup_concat {l : List Id} {x : Id} (h : l.Nodup) (hx : x ∉ l) : (l ++ [x]).Nodup :=
  (List.perm_append_singleton x l).nodup_iff.2 (List.nodup_cons.2 ⟨hx, h⟩)

theorem insertBody_ok {r : R} {x : Id} (hx : x ∉ r.table) (hr : r.room = true) :
    insertBody r x = ({ r with tokens := r.tokens + 1, table := r.table ++ [x], queue := r.queue ++ [x] }, .ok) :=
  (if_neg hx).trans (if_pos hr)

theorem insertBody_or (r : R) (x : Id) : (insertBody r x).1.dead = true ∨ (x ∉ r.table ∧ r.room = true) := by
  fun_cases insertBody r x
  next => exact .inl rfl
  next hx hr => exact .inr ⟨hx, hr⟩
  next => exact .inl rfl

theorem mem_insertBody_table {r : R} {x z : Id} : z ∈ (insertBody r x).1.table → z ∈ r.table ∨ z = x := by
  fun_cases insertBody r x
  next => exact .inl
  all_goals exact fun h => (List.mem_append.1 h).imp id List.mem_singleton.1

structure Inv (r : R) : Prop where
  tok : r.tokens = r.table.length
  nodup : r.table.Nodup
  le : r.tokens ≤ r.cap
  parked : r.blockedIns ≠ [] → r.tokens = r.cap ∧ r.frozen = false

/-- the invariant holds in every state that is not dead (a crashed or wedged process has no state to speak of) -/
def Good (r : R) : Prop := r.dead = true ∨ Inv r

theorem inv_init : Inv R.init := ⟨rfl, List.nodup_nil, Nat.le_refl _, fun h => absurd rfl h⟩

theorem inv_started (n : Nat) : Inv { R.init with started := true, cap := n } :=
  ⟨rfl, List.nodup_nil, Nat.zero_le _, fun h => absurd rfl h⟩

theorem Inv.tokens_ne {r : R} (h : Inv r) {x : Id} (hx : x ∈ r.table) : r.tokens ≠ 0 :=
  Nat.ne_of_gt (h.tok ▸ List.length_pos_of_mem hx)

/-- stated for the fields, since `finish` calls `insertBody` in a state whose `parked` is one token off -/
theorem insertBody_good {r : R} {x : Id} (htok : r.tokens = r.table.length) (hnd : r.table.Nodup)
    (hlt : r.tokens < r.cap) (hp : r.blockedIns ≠ [] → r.tokens + 1 = r.cap ∧ r.frozen = false) :
    Good (insertBody r x).1 := by
  refine (insertBody_or r x).imp id fun ⟨hx, hr⟩ => ?_
  rw [insertBody_ok hx hr]
  exact ⟨by simp [htok], nodup_concat hnd hx, hlt, hp⟩

theorem step_good {F : Facts} (hF : okTokens F = true) {r : R} (op : Op) (h : Good r) :
    Good (step F r op).1 := by
  refine step_fst_ind F op h (fun n => .inr (inv_started n)) fun hl => ?_
  have hi : Inv r := h.resolve_left (ne_true_of_eq_false hl.1)
  rw [step_live F hl]
  cases op with
  | start n => exact h
  | insert x =>
    refine fst_ite (fun _ => h) fun hfz => fst_ite (fun hlt => ?_) fun hge => ?_
    · exact insertBody_good hi.tok hi.nodup hlt fun hb => absurd (hi.parked hb).1 (Nat.ne_of_lt hlt)
    · have hfz : r.frozen = false := by simpa [hge] using hfz
      exact .inr ⟨hi.tok, hi.nodup, hi.le, fun _ => ⟨Nat.le_antisymm hi.le (Nat.le_of_not_lt hge), hfz⟩⟩
  | feedback x =>
    refine fst_ite (fun _ => h) fun _ => fst_ite (fun _ => fst_ite (fun hsw => ?_) fun _ => h) fun _ =>
      fst_ite (fun _ => h) fun _ => fst_ite (fun _ => .inr ⟨hi.tok, hi.nodup, hi.le, hi.parked⟩) fun _ => .inl rfl
    simp only [eq_of_beq hF, String.reduceBEq, Bool.false_eq_true] at hsw
  | finish x =>
    refine fst_ite (fun hx => fst_ite (fun _ => .inl rfl) fun _ => ?_) fun _ => h
    have htok : r.tokens - 1 = (r.table.erase x).length := by rw [List.length_erase_of_mem hx, hi.tok]
    have hlt : r.tokens - 1 < r.cap := Nat.lt_of_lt_of_le (Nat.sub_one_lt (hi.tokens_ne hx)) hi.le
    dsimp only
    split
    · rename_i y rest hbl
      have hpk := hi.parked (hbl ▸ List.cons_ne_nil _ _)
      exact insertBody_good htok (hi.nodup.erase x) hlt
        fun _ => ⟨(Nat.sub_one_add_one (hi.tokens_ne hx)).trans hpk.1, hpk.2⟩
    · rename_i hbl
      exact .inr ⟨htok, hi.nodup.erase x, Nat.le_of_lt hlt, fun hb => absurd hbl hb⟩
  | freeze => exact .inr ⟨hi.tok, hi.nodup, hi.le, fun hb => absurd rfl hb⟩
  | stop => exact .inr inv_init
  | recv => dsimp only; split <;> exact .inr ⟨hi.tok, hi.nodup, hi.le, hi.parked⟩

theorem run_good {F : Facts} (hF : okTokens F = true) {r : R} (ops : List Op) (h : Good r) :
    Good (run F r ops) :=
  List.foldlRecOn ops _ h fun _ h o _ => step_good hF o h

/-! ### Client discipline of the pipeline: the consumer feeds back / finishes only seeds it holds, the source never
inserts an id that is tracked or waiting. -/

def Disc (r : R) : Op → Prop
  | .insert x => x ∉ r.table ∧ x ∉ r.blockedIns
  | .feedback x => x ∈ r.held
  | .finish x => x ∈ r.held
  | _ => True

instance (r : R) (op : Op) : Decidable (Disc r op) := by
  cases op <;> unfold Disc <;> infer_instance

/-- each tracked seed is queued or held exactly once; nothing parked is tracked -/
structure Lin (r : R) : Prop where
  cnt : ∀ a, r.queue.count a + r.held.count a = r.table.count a
  parkedFresh : ∀ y ∈ r.blockedIns, y ∉ r.table
  parkedNodup : r.blockedIns.Nodup
  alive : r.dead = false

theorem lin_init : Lin R.init := ⟨fun _ => rfl, List.forall_mem_nil _, List.nodup_nil, rfl⟩

theorem lin_started (n : Nat) : Lin { R.init with started := true, cap := n } :=
  ⟨fun _ => rfl, List.forall_mem_nil _, List.nodup_nil, rfl⟩

theorem Lin.perm {r : R} (hl : Lin r) : (r.queue ++ r.held).Perm r.table :=
  List.perm_iff_count.2 fun a => List.count_append.trans (hl.cnt a)

set_option linter.unusedVariables false in
theorem room_of (r : R) (hi : Inv r) (hl : Lin r) (hh : r.held ≠ [] ∨ r.tokens < r.cap ∨ True) :
    r.queue.length ≤ r.cap :=
  calc r.queue.length ≤ (r.queue ++ r.held).length := (List.sublist_append_left ..).length_le
    _ = r.table.length := hl.perm.length_eq
    _ = r.tokens := hi.tok.symm
    _ ≤ r.cap := hi.le

theorem Lin.held_tracked {r : R} (hl : Lin r) {x : Id} (hx : x ∈ r.held) : x ∈ r.table :=
  hl.perm.subset (List.mem_append_right _ hx)

theorem room {r : R} (hi : Inv r) (hl : Lin r) : r.room = true :=
  decide_eq_true (Nat.lt_succ_of_le (room_of r hi hl (.inr (.inr trivial))))

theorem count_erase_add {α} [BEq α] [LawfulBEq α] {l : List α} {x : α} (h : x ∈ l) (a : α) :
    (l.erase x).count a + [x].count a = l.count a := by
  rw [(List.perm_cons_erase h).count_eq a, List.count_singleton, List.count_cons]

theorem insertBody_lin {r : R} {x : Id} (hl : Lin r) (hr : r.room = true) (hx : x ∉ r.table) (hxb : x ∉ r.blockedIns) :
    Lin (insertBody r x).1 := by
  rw [insertBody_ok hx hr]
  refine ⟨fun a => ?_, fun y hy hm => (List.mem_append.1 hm).elim (hl.parkedFresh y hy)
    fun h => hxb (List.mem_singleton.1 h ▸ hy), hl.parkedNodup, hl.alive⟩
  simp +arith only [List.count_append, ← hl.cnt a]

/-- Under client discipline the process never crashes or wedges, so no call blocks forever on the input channel. -/
theorem step_lin (F : Facts) {r : R} {op : Op} (hi : Inv r) (hl : Lin r) (hd : Disc r op) :
    Lin (step F r op).1 := by
  refine step_fst_ind F op hl lin_started fun hlv => ?_
  rw [step_live F hlv]
  cases op with
  | start n => exact hl
  | insert x =>
    refine fst_ite (fun _ => hl) fun _ => fst_ite (fun _ => ?_) fun _ => ?_
    · exact insertBody_lin hl (room hi hl) hd.1 hd.2
    · exact ⟨hl.cnt, List.forall_mem_append.2 ⟨hl.parkedFresh, List.forall_mem_singleton.2 hd.1⟩,
        nodup_concat hl.parkedNodup hd.2, hl.alive⟩
  | feedback x =>
    refine fst_ite (fun _ => hl) fun _ => fst_ite (fun hx => absurd (hl.held_tracked hd) hx) fun _ =>
      fst_ite (fun _ => hl) fun _ => fst_ite (fun _ => ?_) fun hr => absurd (room hi hl) hr
    refine ⟨fun a => ?_, hl.parkedFresh, hl.parkedNodup, hl.alive⟩
    simp +arith only [List.count_append, ← hl.cnt a, ← count_erase_add hd a]
  | finish x =>
    have hx := hl.held_tracked hd
    have hcnt (a) : r.queue.count a + (r.held.erase x).count a = (r.table.erase x).count a := by
      simpa +arith only [← count_erase_add hd a, ← count_erase_add hx a] using hl.cnt a
    have hfresh : ∀ y ∈ r.blockedIns, y ∉ r.table.erase x :=
      fun y hy hm => hl.parkedFresh y hy (List.mem_of_mem_erase hm)
    refine fst_ite (fun _ => fst_ite (fun h0 => absurd h0 (hi.tokens_ne hx)) fun _ => ?_) fun hn => absurd hx hn
    dsimp only
    split
    · rename_i y rest hbl
      have hnd := List.nodup_cons.1 (hbl ▸ hl.parkedNodup)
      have hf := List.forall_mem_cons.1 (hbl ▸ hfresh)
      -- `room` reads `queue` and `cap`, which this state has from `r`
      exact insertBody_lin ⟨hcnt, hf.2, hnd.2, hl.alive⟩ (room hi hl :) hf.1 hnd.1
    · exact ⟨hcnt, hfresh, hl.parkedNodup, hl.alive⟩
  | freeze => exact ⟨hl.cnt, List.forall_mem_nil _, List.nodup_nil, hl.alive⟩
  | stop => exact lin_init
  | recv =>
    dsimp only
    split
    · rename_i y q hq
      refine ⟨fun a => ?_, hl.parkedFresh, hl.parkedNodup, hl.alive⟩
      simp +arith only [List.count_cons, List.count_append, List.count_nil, ← hl.cnt a, hq]
    · exact hl

theorem step_full {F : Facts} (hF : okTokens F = true) {r : R} {op : Op} (hi : Inv r) (hl : Lin r)
    (hd : Disc r op) : Inv (step F r op).1 ∧ Lin (step F r op).1 :=
  have h := step_lin F hi hl hd
  ⟨(step_good hF op (.inr hi)).resolve_left (ne_true_of_eq_false h.alive), h⟩

def DiscRun (F : Facts) : R → List Op → Prop
  | _, [] => True
  | r, o :: os => Disc r o ∧ DiscRun F (step F r o).1 os

instance decDiscRun (F : Facts) : (r : R) → (ops : List Op) → Decidable (DiscRun F r ops)
  | _, [] => isTrue trivial
  | r, o :: os =>
    have := decDiscRun F (step F r o).1 os
    inferInstanceAs (Decidable (Disc r o ∧ DiscRun F (step F r o).1 os))

theorem run_full {F : Facts} (hF : okTokens F = true) {r : R} {ops : List Op} (hi : Inv r) (hl : Lin r)
    (hd : DiscRun F r ops) : Inv (run F r ops) ∧ Lin (run F r ops) := by
  induction ops generalizing r with
  | nil => exact ⟨hi, hl⟩
  | cons o os ih =>
    have := step_full hF hi hl hd.1
    exact ih this.1 this.2 hd.2

theorem refused (F : Facts) (r : R) {op : Op} (h : Live r → ∃ res, step F r op = (r, res, []) ∧ res ≠ .ok)
    (hop : ∀ n, op ≠ .start n := by exact fun _ => Op.noConfusion) :
    (step F r op).1 = r ∧ (step F r op).2.1 ≠ .ok := by
  by_cases hl : Live r
  · obtain ⟨res, e, hres⟩ := h hl
    rw [e]; exact ⟨rfl, hres⟩
  · rw [step_gate F hl hop]; exact ⟨rfl, by cases r.dead <;> exact Res.noConfusion⟩

theorem stopped_refuses (F : Facts) (r : R) {op : Op} (hop : ∀ n, op ≠ .start n := by exact fun _ => Op.noConfusion) :
    (step F (step F r .stop).1 op).1 = (step F r .stop).1 ∧ (step F (step F r .stop).1 op).2.1 ≠ .ok := by
  refine refused F _ (fun h => absurd h ?_) hop
  by_cases hl : Live r
  · rw [step_live F hl]; exact fun h => Bool.false_ne_true h.2
  · rw [step_gate F hl fun _ => Op.noConfusion]; exact hl

theorem feedback_unknown {F : Facts} (hF : okTokens F = true) {r : R} {x : Id} (hx : x ∉ r.table) :
    (step F r (.feedback x)).1 = r ∧ (step F r (.feedback x)).2.1 ≠ .ok := by
  refine refused F r fun hl => ?_
  rw [step_live F hl]
  simp only [hx, not_false_eq_true, if_true, eq_of_beq hF, String.reduceBEq, Bool.false_eq_true, if_false]
  split <;> exact ⟨_, rfl, Res.noConfusion⟩

theorem finish_unknown (F : Facts) {r : R} {x : Id} (hx : x ∉ r.table) :
    (step F r (.finish x)).1 = r ∧ (step F r (.finish x)).2.1 ≠ .ok := by
  refine refused F r fun hl => ?_
  rw [step_live F hl]
  exact ⟨_, if_neg hx, Res.noConfusion⟩

theorem frozen_insert (F : Facts) (hF : F.insertChecksClosedFirst = true) {r : R} (x : Id) (hfz : r.frozen = true) :
    (step F r (.insert x)).1 = r ∧ (step F r (.insert x)).2.1 ≠ .ok := by
  refine refused F r fun hl => ?_
  rw [step_live F hl]
  exact ⟨_, if_pos (by simp [hfz, hF]), Res.noConfusion⟩

theorem frozen_feedback (F : Facts) (hF : F.feedbackChecksClosedFirst = true) {r : R} (x : Id) (hfz : r.frozen = true) :
    (step F r (.feedback x)).1 = r ∧ (step F r (.feedback x)).2.1 ≠ .ok := by
  refine refused F r fun hl => ?_
  rw [step_live F hl]
  exact ⟨_, if_pos (by simp [hfz, hF]), Res.noConfusion⟩

/-- after a successful finish the id is no longer tracked (unless the very same id was parked
as a waiting insert and has just been admitted) -/
theorem finish_removes (F : Facts) {r : R} {x : Id} (hi : Inv r) (hl : Live r) (hx : x ∈ r.table)
    (hp : r.blockedIns.head? ≠ some x) :
    (step F r (.finish x)).2.1 = .ok ∧ x ∉ (step F r (.finish x)).1.table := by
  rw [step_live F hl]
  simp only [hx, if_true, hi.tokens_ne hx, if_false]
  split
  · rename_i y rest hbl
    exact ⟨rfl, fun h => (mem_insertBody_table h).elim hi.nodup.not_mem_erase fun e => hp (by rw [hbl, e]; rfl)⟩
  · exact ⟨rfl, hi.nodup.not_mem_erase⟩

/-- the consumer holding a seed can always feed it back: the call returns at once -/
theorem feedback_held (F : Facts) {r : R} {x : Id} (hi : Inv r) (hl : Lin r) (hx : x ∈ r.held) :
    (step F r (.feedback x)).2.1 ≠ .blocked ∧ (step F r (.feedback x)).1.dead = false := by
  by_cases hlv : Live r
  · rw [step_live F hlv]
    simp only [hl.held_tracked hx, not_true_eq_false, if_false, room hi hl, Bool.not_true, Bool.or_false, if_true]
    cases F.feedbackChecksClosedFirst <;> cases r.frozen <;> exact ⟨Res.noConfusion, hl.alive⟩
  · rw [step_gate F hlv fun _ => Op.noConfusion]
    exact ⟨by cases r.dead <;> exact Res.noConfusion, hl.alive⟩

def recvN (F : Facts) (r : R) : Nat → R
  | 0 => r
  | n + 1 => recvN F (step F r .recv).1 n

theorem recv_reaches (F : Facts) {r : R} (hl : Live r) {pre post : List Id} {x : Id} (hq : r.queue = pre ++ x :: post) :
    x ∈ (recvN F r (pre.length + 1)).held := by
  induction pre generalizing r with
  | nil =>
    rw [recvN, step_live F hl, hq]
    exact List.mem_concat_self
  | cons p ps ih =>
    rw [List.length_cons, recvN, step_live F hl, hq]
    exact ih hl rfl

theorem tracked_somewhere {r : R} (hl : Lin r) {x : Id} (hx : x ∈ r.table) : x ∈ r.queue ∨ x ∈ r.held :=
  List.mem_append.1 (hl.perm.mem_iff.2 hx)

end Zeno.Model.Reactor
