import Zeno.Proofs.ArithExec
import Zeno.Model.DiskProg
import Zeno.Gen.DiskProg
import Zeno.Gen.Disk
import Zeno.Proofs.Disk
/-! The translated `checkThreshold` computes exactly the model's `refuse` — for every volume size, free space and setting. -/
namespace Zeno.Model.DiskProg
open Zeno.Model.Disk Zeno.Model.RateProg

abbrev P : Progs := Zeno.Gen.DiskProg.facts
abbrev G : Zeno.Model.Disk.Facts := Zeno.Gen.Disk.facts

/-- how `runCheck` reads an outcome: only a `return` gives a decision -/
def verdict : Out → Option Bool
  | .returned e => e.result
  | _ => none

theorem verdict_returned (e : Env) : verdict (.returned e) = e.result := rfl
theorem verdict_bad : verdict .bad = none := rfl

theorem runCheck_eq (Q : Progs) (total free : Nat) (msr : Rat) :
    runCheck Q total free msr =
      verdict ((Out.fell {
          b := .new 0 0 0, now := 0, params := fun _ => none,
          locals := fun i => if i = 0 then some (total : Rat) else if i = 1 then some (free : Rat) else if i = 2 then some msr else none
        }).seq noCallee Q.checkThreshold) := rfl

/-- the comparison `free < uint64(math.Ceil(x))` of the program against the model's conversion, for a non-negative threshold -/
theorem lt_ceil_eq_toU64 {x : Rat} {free : Nat} (h0 : 0 ≤ x) :
    (if ((x.ceil : Int) : Rat) < 0 ∨ (18446744073709551616 : Rat) ≤ ((x.ceil : Int) : Rat) then none
      else some (decide ((free : Rat) < ((x.ceil : Int) : Rat))))
      = (toU64 .ceil x).map (fun t => decide (free < t)) := by
  have hc : ¬ ((x.ceil : Int) : Rat) < 0 := Rat.not_lt.mpr (Rat.le_trans h0 Rat.le_ceil)
  have hlt : (free < x.ceil.toNat) = ((free : Rat) < ((x.ceil : Int) : Rat)) := by
    rw [Int.lt_toNat, ← Rat.intCast_lt_intCast, Rat.intCast_natCast]
  unfold toU64 two64
  by_cases hbig : (18446744073709551616 : Rat) ≤ ((x.ceil : Int) : Rat)
  · simp only [hbig, or_true, if_true, ite_self, Option.map_none]
  · -- `x ≤ ⌈x⌉`: the threshold itself is in range as well
    simp only [hc, hbig, mt (Rat.le_trans · Rat.le_ceil) hbig, Rat.not_lt.mpr h0, or_self, if_false, Option.map_some, hlt]

theorem check_translated (total free : Nat) (msr : Rat) : runCheck P total free msr = refuse G total free msr := by
  have hc : ((total : Rat) ≤ 274877906944) ↔ total ≤ 274877906944 := Rat.natCast_le_natCast (b := 274877906944)
  simp only [runCheck_eq, P, Zeno.Gen.DiskProg.facts]
  simp only [exec_eqs, reduceIte, Nat.reduceEqDiff]
  -- with its test on `total` read in `Nat` (`hc`), the threshold the program computes is `specThreshold` written out
  simp only [hc, ← specThreshold.eq_1, apply_ite verdict, verdict_returned, verdict_bad, Rat.floor_intCast, ite_some,
    Bool.if_true_left, Bool.or_false, lt_ceil_eq_toU64 (specThreshold_nonneg total msr)]
  exact .symm (refuse_eq (by decide) total free msr)

end Zeno.Model.DiskProg
