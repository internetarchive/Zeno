import Zeno.Model.Queue
import Zeno.Proofs.ListIdx
/-!
Batcher: each operation keeps the multiset `Batcher.all` up to what arrives, hence `conservation`. Local queue table: `lqAdd`
is a fold of `addRow`, which keeps values distinct.
-/
namespace Zeno.Model.Queue

/-! ### used in the statements of Props/C04, C15 -/

/-- the source shapes the hop encoding and the batcher mirror (`Props/C15.facts_ok_hq` evaluates them); no lemma needs them -/
def okHQ (F : Facts) : Bool :=
  F.hopLetter == "L" && F.pathToHopsCounts && F.hqProduceFields && F.hqProduceFlushOnSize && F.hqProduceFlushOnTick &&
  F.hqProduceRetriesForever && F.hqFinishById && F.hqFinishFlushOnSize && F.hqFinishFlushOnTick && F.hqFinishRetriesForever &&
  F.hqConsumeFields && F.finishNotifiesAfterMark && F.outlinkViaIsParentCanonical

/-- the same for source/lq and the table operations (`Props/C15.facts_ok_lq`, `C04.facts_ok`) -/
def okLQ (F : Facts) : Bool :=
  F.lqProduceFields && F.lqConsumeFields && F.lqAddSkipsDuplicateValue && F.lqAddOneTransaction && F.lqGetClaimsInTransaction &&
  F.lqUniqueValueIndex && F.lqSqlStatuses && F.lqStopResetsTracked

def ValuesNodup (tbl : List Row) : Prop := (tbl.map (·.value)).Nodup

theorem hops_roundtrip (F : Facts) (h : Nat) : pathToHops F (hopsToPath F h) = h :=
  List.count_replicate_self

/-! ### batcher -/

theorem all_flush {α} (F : Facts) (b : Batcher α) : (flush F b).all = b.all := by
  fun_cases flush F b
  · rfl
  · simp [Batcher.all, List.flatten_append]

theorem all_recv {α} (F : Facts) (r : Bool) (b : Batcher α) (x : α) : (bstep F r b (.recv x)).all = b.all ++ [x] := by
  -- a flush keeps `all`, so both branches hold the same
  simp only [bstep, apply_ite Batcher.all, all_flush, ite_self]
  exact (List.append_assoc ..).symm

theorem bstep_perm {α} (F : Facts) (b : Batcher α) (op : BOp α) :
    (bstep F true b op).all.Perm (b.all ++ received [op]) := by
  cases op with
  | recv x => exact .of_eq (all_recv F true b x)
  | tick => exact .of_eq ((all_flush F b).trans (List.append_nil _).symm)
  | sendFail k => exact .of_eq (List.append_nil _).symm
  | sendOk k =>
    -- the only step that reorders what is held (in flight → delivered)
    simp only [bstep, received, List.append_nil]
    split
    · next batch hk =>
      have := ((List.perm_cons_eraseIdx hk).flatten.append_left b.delivered.flatten).append_right b.batch
      simpa [Batcher.all, List.flatten_append] using this.symm
    · rfl

theorem received_cons {α} (op : BOp α) (ops : List (BOp α)) : received (op :: ops) = received [op] ++ received ops := by
  cases op <;> rfl

theorem brun_perm {α} (F : Facts) (b : Batcher α) (ops : List (BOp α)) :
    (brun F true b ops).all.Perm (b.all ++ received ops) := by
  induction ops generalizing b with
  | nil => exact .of_eq (List.append_nil _).symm
  | cons op ops ih =>
    rw [brun, List.foldl_cons, ← brun, received_cons, ← List.append_assoc]
    exact (ih _).trans ((bstep_perm F b op).append_right _)

/-- **Conservation**: over any sequence of arrivals, timer ticks, accepted and refused sends, what arrived = delivered ⊎
in flight ⊎ being batched. -/
theorem conservation {α} [DecidableEq α] (F : Facts) (b : Batcher α) (ops : List (BOp α)) (a : α) :
    (brun F true b ops).all.count a = b.all.count a + (received ops).count a := by
  rw [(brun_perm F b ops).count_eq, List.count_append]

/-- a sender that gives up after a failure loses the batch (what `…RetriesForever` rules out) -/
theorem giveup_loses {F : Facts} : (brun (α := Nat) F false { size := 1 } [.recv 7, .sendFail 0]).all = [] :=
  rfl

theorem bstep_sendOk_zero {α} (F : Facts) (r : Bool) (c : Batcher α) :
    (bstep F r c (.sendOk 0)).batch = c.batch ∧ (bstep F r c (.sendOk 0)).inflight = c.inflight.tail := by
  cases h : c.inflight <;> simp [bstep, h]

theorem sends_drain {α} (F : Facts) {n : Nat} {c : Batcher α} (hb : c.batch = []) (hl : c.inflight.length ≤ n) :
    (brun F true c (List.replicate n (.sendOk 0))).batch = [] ∧ (brun F true c (List.replicate n (.sendOk 0))).inflight = [] := by
  induction n generalizing c with
  | zero => exact ⟨hb, List.eq_nil_of_length_eq_zero (Nat.le_zero.1 hl)⟩
  | succ m ih =>
    obtain ⟨h1, h2⟩ := bstep_sendOk_zero F true c
    rw [List.replicate_succ, brun, List.foldl_cons]
    exact ih (h1.trans hb) (by rw [h2, List.length_tail]; exact Nat.sub_le_of_le_add hl)

/-- **Drains**: once failures stop, one tick plus one accepted send per in-flight batch leaves nothing pending -/
theorem drains {α} (F : Facts) (b : Batcher α) :
    let b' := brun F true b (BOp.tick :: List.replicate (b.inflight.length + 1) (BOp.sendOk 0))
    b'.batch = [] ∧ b'.inflight = [] := by
  have ⟨hf, hl⟩ : (flush F b).batch = [] ∧ (flush F b).inflight.length ≤ b.inflight.length + 1 := by
    fun_cases flush F b
    · next h => exact ⟨List.isEmpty_iff.1 h, Nat.le_succ _⟩
    · exact ⟨rfl, by simp⟩
  rw [brun, List.foldl_cons]
  exact sends_drain F hf hl

/-! ### local queue table -/

def addRow (F : Facts) (t : List Row) (u : Row) : Option (List Row) :=
  if t.any (·.value == u.value) then (if F.lqAddSkipsDuplicateValue then some t else none)
  else if t.any (·.id == u.id) then none
  else some (t ++ [{ u with status := .fresh }])

theorem lqAdd_eq (F : Facts) (tbl urls : List Row) : lqAdd F tbl urls = urls.foldlM (addRow F) tbl := rfl

theorem addRow_nodup {F : Facts} {t t' : List Row} {u : Row} (h : ValuesNodup t) : addRow F t u = some t' → ValuesNodup t' := by
  fun_cases addRow F t u
  · rintro ⟨⟩
    exact h
  · nofun
  · nofun
  · next hv _ =>
    rintro ⟨⟩
    -- the new value is none of the old ones: the test on the values failed
    rw [ValuesNodup, List.map_append, List.perm_append_comm.nodup_iff, List.map_singleton, List.singleton_append,
      List.nodup_cons]
    exact ⟨by simpa only [List.mem_map, List.any_eq_true, beq_iff_eq] using hv, h⟩

/-- **A URL already waiting in the local queue is not queued twice**: an `Add` batch keeps the values of the rows distinct. -/
theorem lqAdd_nodup {F : Facts} {tbl tbl' urls : List Row} (h : ValuesNodup tbl)
    (hs : lqAdd F tbl urls = some tbl') : ValuesNodup tbl' := by
  rw [lqAdd_eq] at hs
  induction urls generalizing tbl with
  | nil => cases hs; exact h
  | cons u us ih =>
    rw [List.foldlM_cons] at hs
    obtain ⟨t1, h1, hs⟩ := Option.bind_eq_some_iff.1 hs
    exact ih (addRow_nodup h h1) hs

theorem ValuesNodup.map {tbl : List Row} (h : ValuesNodup tbl) {f : Row → Row} (hf : ∀ r, (f r).value = r.value) :
    ValuesNodup (tbl.map f) := by
  simpa [ValuesNodup, Function.comp_def, hf] using h

theorem other_ops_nodup (F : Facts) (tbl : List Row) (h : ValuesNodup tbl) (n : Nat) (ids : List String) (id : String) :
    ValuesNodup (lqGet tbl n).1 ∧ ValuesNodup (lqDelete tbl ids) ∧ ValuesNodup (lqReset tbl id) ∧ ValuesNodup (lqInit F tbl) := by
  refine ⟨h.map fun r => by split <;> rfl, (List.filter_sublist.map _).nodup h, h.map fun r => by split <;> rfl, ?_⟩
  fun_cases lqInit F tbl
  · exact h.map fun _ => rfl
  · exact h

/-- **Nothing stays stranded after a restart** (when `Init` hands claimed rows back): every row not deleted is FRESH,
claimable again. -/
theorem restart_all_fresh (F : Facts) (h : F.lqInitReclaims = true) (tbl : List Row) :
    ∀ r ∈ lqInit F tbl, r.status = .fresh := by
  rw [lqInit, if_pos h]
  exact List.forall_mem_map.2 fun _ _ => rfl

end Zeno.Model.Queue
