import Zeno.Model.Stop
/-!
When the stop functions of `Model/Stop` return, for any facts of the right shape: under `StagesOk` the four stages let a
stop through, and `stopPipeline` is decided by the watchers and the source.
-/
namespace Zeno.Model.Stop

theorem workerStop_returns (m : Moment) : workerStop "cancellable" true m = .returned := by
  simp [workerStop]

theorem archiverStop_returns {A : AF} {U : UF} {P : PF} (hack : U.archiverAck = "cancellable")
    (hsend : P.archSendsCancellable = true) (hcw : A.stopCancelsThenWaits = true) (hcap : P.archiveWaitsForItsCaptures = true)
    (hcl : A.stopClients = "nilSafe") (hwr : A.stopClosesAfterWriters = true) (c : Cfg) (m : Moment) :
    archiverStop A U P c m = .returned := by
  simp [archiverStop, hack, hsend, workerStop_returns, hcw, hcap, hcl, hwr]

/-- the shapes under which neither a stage worker nor the archiver can hold up or crash a stop -/
structure StagesOk (A : AF) (U : UF) (P : PF) : Prop where
  order : P.stopOrderFreezeStagesSourceReactor = true
  preAck : U.preprocessorAck = "cancellable"
  preSend : P.preSendsCancellable = true
  archAck : U.archiverAck = "cancellable"
  archSend : P.archSendsCancellable = true
  postAck : U.postprocessorAck = "cancellable"
  postSend : P.postSendsCancellable = true
  finAck : U.finisherAck = "cancellable"
  captures : P.archiveWaitsForItsCaptures = true
  cancelsFirst : A.stopCancelsThenWaits = true
  clients : A.stopClients = "nilSafe"
  closesLast : A.stopClosesAfterWriters = true

theorem stopPipeline_eq {A : AF} {U : UF} {P : PF} (h : StagesOk A U P) (c : Cfg) (m : Moment) :
    stopPipeline A U P c m = andThen (watchersStop P m) (sourceStop P m) := by
  simp [stopPipeline, h.order, h.preAck, h.preSend, h.postAck, h.postSend, h.finAck, workerStop_returns, andThen,
    archiverStop_returns h.archAck h.archSend h.cancelsFirst h.captures h.clients h.closesLast]

theorem watchersStop_returns {P : PF} (hd : watcherReturns P.diskWatcherOnStop = true)
    (hw : watcherReturns P.warcWatcherOnStop = true) (m : Moment) : watchersStop P m = .returned := by
  have h : ∀ x, watcherReturns x = true → (x == "missing") = false := by
    intro x hx
    simp only [watcherReturns, Bool.or_eq_true, beq_iff_eq] at hx
    rcases hx with rfl | rfl <;> simp
  simp [watchersStop, hd, hw, h _ hd, h _ hw]

theorem firstSeed_returns {S : SF} (h : S.preSeencheckGuard = "guarded") (c : Cfg) : firstSeed S c = .returned := by
  simp only [firstSeed, h]
  cases c.seencheck <;> cases c.useHQ <;> simp

theorem runAndStop_returns {A : AF} {S : SF} {U : UF} {P : PF} (h : StagesOk A U P) (hs : S.preSeencheckGuard = "guarded")
    (hd : watcherReturns P.diskWatcherOnStop = true) (hw : watcherReturns P.warcWatcherOnStop = true)
    (hi : P.insertWaitWokenByFreeze = true) (c : Cfg) (m : Moment) : runAndStop A S U P c m = .returned := by
  rw [runAndStop, stopPipeline_eq h, watchersStop_returns hd hw, firstSeed_returns hs]
  simp [sourceStop, hi, andThen]

end Zeno.Model.Stop
