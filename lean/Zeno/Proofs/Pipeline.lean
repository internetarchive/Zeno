import Zeno.Model.Pipeline
import Zeno.Proofs.Item
/-! The books of the pipeline model (`Inv`): every accepted id is in flight, reported or handed back, exactly once. -/
namespace Zeno.Model.Pipeline
open Zeno.Model.Item Zeno.Model.Stages

/-- the proofs use the first four conjuncts (`okFin_fields`); the others pin the shapes of the stages that the model assumes -/
def okFin (P : PF) : Bool :=
  P.finFreshGoesToProduce && P.finIncompleteGoesToFeedback && P.finCompleteMarksThenNotifies && P.finNotifyUnconditional &&
  P.finOneExitPerSeed && P.stagesWiredInOrder && P.sourceGetsFinisherChans && P.preForwardsEverySeedOnce &&
  P.archForwardsEverySeedOnce && P.postForwardsEverySeedOnce

theorem okFin_fields {P : PF} (h : okFin P = true) :
    P.finFreshGoesToProduce = true ∧ P.finIncompleteGoesToFeedback = true ∧ P.finCompleteMarksThenNotifies = true ∧
    P.finNotifyUnconditional = true := by
  simp only [okFin, Bool.and_eq_true] at h
  simp only [h, and_self]

/-- every tree entering the system or handed on by a stage has the closure shape the stages maintain
(no work below a node without work: `c11_complete_keeps_shape`) -/
def Shaped (I : IF) : Ev → Prop
  | .accept _ t => t.nwc I = true
  | .advance _ t => t.nwc I = true
  | .finish _ => True
  | .freeze => True

/-- how often an id was reported to the queue (acknowledged as finished, or produced as a new URL) -/
def reported (s : State) (x : String) : Nat := (s.acks.map Prod.fst).count x + s.produced.count x

/-- how often an id was left in the frozen reactor's state table for the source to hand back -/
def handedBack (s : State) (x : String) : Nat := s.parked.count x

structure Inv (I : IF) (s : State) : Prop where
  nodup : (ids s).Nodup
  conserve : ∀ x, s.accepted.count x = (ids s).count x + reported s x + handedBack s x
  done : ∀ a ∈ s.acks, a.2.anyPending = false
  shape : ∀ it ∈ s.items, it.tree.nwc I = true

theorem ids_filter {s : State} (h : (ids s).Nodup) (id : String) :
    (s.items.filter (fun y => !(y.id == id))).map (·.id) = (ids s).erase id :=
  (List.filter_map (f := fun y : Item => y.id) (p := (· != id))).symm.trans (h.erase_eq_filter id).symm

theorem ids_advance (P : PF) (I : IF) (s : State) (id : String) (t' : Tree) : ids (step P I s (.advance id t')) = ids s :=
  List.map_map.trans (List.map_congr_left fun _ _ => (apply_ite Item.id ..).trans (ite_self _))

theorem finisher_finish_done {I : IF} (hI : okSets I = true) {t : Tree} (hw : t.nwc I = true) :
    (finisher I t).2 = .finish → (finisher I t).1.anyPending = false := by
  fun_cases finisher I t
  · nofun
  next t' done hc =>
    -- the decision is `finish` only with `done`, which says that nothing is pending
    cases done
    · nofun
    · exact fun _ => (hc ▸ complete_iff I hI t hw).1 rfl

theorem finisher_keeps_shape {I : IF} (hI : okSets I = true) {t : Tree} (hw : t.nwc I = true) : (finisher I t).1.nwc I = true := by
  unfold finisher
  split
  · exact hw
  · exact complete_nwc I hI t hw

/-- **One exit per seed**: produced, parked, back in `items`, or, with the decision `finish`, acknowledged. -/
theorem finStep_cases {motive : State → Prop} {P : PF} {I : IF} (hP : okFin P = true) {s : State} {it : Item} {rest : List Item}
    (produce : motive { s with items := rest, produced := it.id :: s.produced })
    (park : motive { s with items := rest, parked := it.id :: s.parked })
    (again : motive { s with items := { it with place := .reactorQ, tree := (finisher I it.tree).1 } :: rest,
                             passes := it.id :: s.passes })
    (ack : (finisher I it.tree).2 = .finish →
      motive { s with items := rest, acks := (it.id, (finisher I it.tree).1) :: s.acks }) :
    motive (finStep P I s it rest) := by
  obtain ⟨p1, p2, p3, p4⟩ := okFin_fields hP
  unfold finStep
  split
  · rw [if_pos p1]
    exact produce
  · rename_i t' hf
    rw [if_pos p2]
    rw [hf] at again
    split
    · exact park
    · exact again
  · rename_i t' hf
    rw [if_pos (by rw [p3, p4]; rfl)]
    rw [hf] at ack
    exact ack rfl

theorem inv_step {P : PF} {I : IF} (hP : okFin P = true) (hI : okSets I = true) {s : State} {e : Ev} (hs : Inv I s)
    (he : Shaped I e) : Inv I (step P I s e) := by
  cases e with
  | accept id t =>
    simp only [step]
    split
    · exact hs
    · rename_i hc
      have hc' : id ∉ ids s := fun h => hc (by simp [h])
      refine ⟨List.nodup_cons.2 ⟨hc', hs.nodup⟩, fun x => ?_, hs.done, List.forall_mem_cons.2 ⟨he, hs.shape⟩⟩
      simp +arith only [ids, reported, handedBack, List.map_cons, List.count_cons, hs.conserve x]
  | advance id t' =>
    have e := ids_advance P I s id t'
    refine ⟨e ▸ hs.nodup, fun x => e ▸ hs.conserve x, hs.done, List.forall_mem_map.2 fun a ha => ?_⟩
    split
    · exact he
    · exact hs.shape a ha
  | freeze => exact ⟨hs.nodup, hs.conserve, hs.done, hs.shape⟩
  | finish id =>
    simp only [step]
    split
    · exact hs
    · rename_i it hfind
      have hmem : it ∈ s.items := List.mem_of_find?_eq_some hfind
      obtain ⟨rfl, -⟩ : it.id = id ∧ it.place = .fin := by simpa using List.find?_some hfind
      have hw := hs.shape it hmem
      have hsh : ∀ x ∈ s.items.filter (fun y => !(y.id == it.id)), x.tree.nwc I = true :=
        fun x hx => hs.shape x (List.filter_sublist.subset hx)
      -- the same ids, with `it.id` brought to the front
      have hp : (ids s).Perm (it.id :: (ids s).erase it.id) := List.perm_cons_erase (List.mem_map_of_mem hmem)
      rw [← ids_filter hs.nodup] at hp
      have hnd := hp.nodup_iff.1 hs.nodup
      -- the four exits in the order of `finStep_cases`; their counting goals are done together below
      refine finStep_cases hP ⟨hnd.of_cons, fun x => ?_, hs.done, hsh⟩ ⟨hnd.of_cons, fun x => ?_, hs.done, hsh⟩
        ⟨hnd, fun x => ?_, hs.done, List.forall_mem_cons.2 ⟨finisher_keeps_shape hI hw, hsh⟩⟩
        fun hf => ⟨hnd.of_cons, fun x => ?_, List.forall_mem_cons.2 ⟨finisher_finish_done hI hw hf, hs.done⟩, hsh⟩
      all_goals
        have hcons := hp.count_eq x ▸ hs.conserve x
        simp +arith only [ids, reported, handedBack, List.map_cons, List.count_cons, hcons]

theorem finish_acks (P : PF) (I : IF) (hP : okFin P = true) (s : State) (id : String) (it : Item) (t' : Tree)
    (hfind : s.items.find? (fun x => x.id == id && x.place == .fin) = some it) (hf : finisher I it.tree = (t', .finish)) :
    (step P I s (.finish id)).acks = (it.id, t') :: s.acks ∧ id ∉ ids (step P I s (.finish id)) := by
  obtain ⟨_, _, p3, p4⟩ := okFin_fields hP
  simp only [step, hfind, finStep, hf, p3, p4, Bool.and_self, if_true, true_and]
  intro hm
  obtain ⟨x, hx, e⟩ := List.mem_map.1 hm
  exact bne_iff_ne.1 (List.mem_filter.1 hx).2 e

theorem inv_run (P : PF) (I : IF) (hP : okFin P = true) (hI : okSets I = true) (evs : List Ev) (s : State) (hs : Inv I s)
    (he : ∀ e ∈ evs, Shaped I e) : Inv I (run P I s evs) :=
  List.foldlRecOn evs _ hs fun _ hs e hm => inv_step hP hI hs (he e hm)

theorem inv_init (I : IF) : Inv I {} :=
  ⟨List.nodup_nil, fun _ => rfl, List.forall_mem_nil _, List.forall_mem_nil _⟩

end Zeno.Model.Pipeline
