import Zeno.Model.Body
/-! The syntactic check `allPathsDrain` on the translated `ProcessBody` is sound. -/
namespace Zeno.Model.Body

/-- what a run that respects the syntactic check looks like; `after` is the check's claim for a run that falls through
(the second component of `drains`): it has read the body to its end -/
def Good (e : Env) (after : Bool) : Out → Prop
  | .ok r _ => r = e.len
  | .fell r _ => after = true → r = e.len
  | .err => True
  | .unknown => False

theorem Good.mono {e : Env} {a a' : Bool} {o : Out} (h : Good e a o) (ha : a' = true → a = true) : Good e a' o := by
  cases o with
  | fell r k => exact h ∘ ha
  | _ => exact h

mutual
theorem stmt_sound (e : Env) (s : BStmt) (d : Bool) (read : Nat) (kept : Bool) (h1 : (s.drains d).1 = true)
    (hd : d = true → read = e.len) : Good e (s.drains d).2 (s.exec e read kept) := by
  match s with
  | .drain | .spool => exact fun _ => rfl
  | .sniff n => exact fun h => by rw [hd h]; exact Nat.min_eq_left (Nat.le_add_right _ _)
  | .keep | .skip _ => exact hd
  | .ret => exact hd h1
  | .retErr => trivial
  | .opaque _ => exact absurd h1 Bool.false_ne_true
  | .ite c t f =>
    have h1 := (Bool.and_eq_true _ _).mp h1
    -- `show`, here and below, where `rw [BStmt.exec, BStmt.drains]` would do: the unfolding equations of the four mutual
    -- functions are slow to generate
    show Good e (_ && _) (if _ then _ else _)
    split
    · exact (block_sound e t d read kept h1.1 hd).mono Lean.Grind.Bool.eq_true_of_and_eq_true_left
    · exact (block_sound e f d read kept h1.2 hd).mono Lean.Grind.Bool.eq_true_of_and_eq_true_right
theorem block_sound (e : Env) (b : BBlock) (d : Bool) (read : Nat) (kept : Bool) (h1 : (b.drains d).1 = true)
    (hd : d = true → read = e.len) : Good e (b.drains d).2 (b.exec e read kept) := by
  match b with
  | .nil => exact hd
  | .cons s rest =>
    have h1 := (Bool.and_eq_true _ _).mp h1
    have hs := stmt_sound e s d read kept h1.1 hd
    show Good e _ (match s.exec e read kept with | .fell r k => rest.exec e r k | o => o)
    revert hs
    cases s.exec e read kept with
    | fell r k => exact block_sound e rest _ r k h1.2
    | _ => exact id
end

/-- **Soundness of the check.** If every way to a successful return passes through a read-to-the-end
and nothing is opaque, then every run that returns nil has read all `len` bytes, for all flags, MIME classes and body lengths,
and meets no statement the translator did not understand. -/
theorem drains_sound (p : BBlock) (h : allPathsDrain p = true) (e : Env) :
    (∀ r k, run p e = .ok r k → r = e.len) ∧ run p e ≠ .unknown := by
  rw [allPathsDrain, Bool.and_eq_true] at h
  have hs := block_sound e p false 0 false h.1 nofun
  unfold run
  cases ho : p.exec e 0 false <;> rw [ho] at hs
  · exact ⟨fun _ _ heq => by cases heq; exact hs h.2, nofun⟩
  · exact ⟨fun _ _ heq => by cases heq; exact hs, nofun⟩
  · exact ⟨nofun, nofun⟩
  · exact hs.elim

end Zeno.Model.Body
