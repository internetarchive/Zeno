import Zeno.Model.Stages
/-!
The two seen-stores as folds (C08). The local store: `SeencheckItem` is a fold of `scStep` (record, promote to a "seed" record, or
report as seen); the store only grows (`Ext`), a recorded URL is reported (`scFold_must_skip`) and nothing else is
(`scFold_skip_only_reported`). Crawl HQ: `hqAnswer` is a fold of `hqStep`; it answers with exactly the values it had not recorded.
-/
namespace Zeno.Model.Stages
open Zeno.Model.Item

/-- is the node checked as a "seed" (the seed itself or a redirect target), not as an asset? -/
def checkedAsSeed (t : Tree) (i : Info) : Bool := !(t.parentStatus i.id == some Status.gotChildren)

/-- one iteration of `SeencheckItem`'s loop -/
def scStep (t : Tree) (acc : Seen × List String) (i : Info) : Seen × List String :=
  match acc.1.lookup i.url with
  | none => ((i.url, checkedAsSeed t i) :: acc.1, acc.2)
  | some wasSeed =>
    if !wasSeed && checkedAsSeed t i then ((i.url, true) :: acc.1, acc.2)
    else (acc.1, i.id :: acc.2)

theorem seencheck_eq (t : Tree) (items : List Info) (seen : Seen) :
    seencheck t items seen = items.foldl (scStep t) (seen, []) := rfl

/-- the store only grows, and a "seed" record stays a "seed" record -/
def Ext (s s' : Seen) : Prop := ∀ u b, s.lookup u = some b → ∃ b', s'.lookup u = some b' ∧ (b = true → b' = true)

theorem Ext.refl (s : Seen) : Ext s s := fun _ b h => ⟨b, h, id⟩
theorem Ext.trans {a b c : Seen} (h1 : Ext a b) (h2 : Ext b c) : Ext a c := by
  intro u x hx
  obtain ⟨y, hy, hxy⟩ := h1 u x hx
  obtain ⟨z, hz, hyz⟩ := h2 u y hy
  exact ⟨z, hz, fun h => hyz (hxy h)⟩

theorem lookup_cons_ne {u v : String} {b : Bool} {s : Seen} (h : u ≠ v) : List.lookup u ((v, b) :: s) = List.lookup u s := by
  rw [List.lookup_cons, beq_false_of_ne h]

theorem Ext.cons {s : Seen} {u : String} {v : Bool} (h : s.lookup u = some true → v = true) : Ext s ((u, v) :: s) := by
  intro u' b hb
  by_cases hu : u' = u
  · subst hu
    exact ⟨v, List.lookup_cons_self, fun hbt => h (hbt ▸ hb)⟩
  · exact ⟨b, by rwa [lookup_cons_ne hu], id⟩

theorem scStep_mono (t : Tree) (acc : Seen × List String) (i : Info) :
    Ext acc.1 (scStep t acc i).1 ∧ ∀ x ∈ acc.2, x ∈ (scStep t acc i).2 := by
  -- a new record, a promotion, a skip
  fun_cases scStep t acc i
  next h => exact ⟨.cons fun h' => (nomatch h.symm.trans h'), fun _ => id⟩
  next => exact ⟨.cons fun _ => rfl, fun _ => id⟩
  next => exact ⟨.refl _, fun _ => List.mem_cons_of_mem _⟩

theorem scFold_mono (t : Tree) (items : List Info) (acc : Seen × List String) :
    Ext acc.1 (items.foldl (scStep t) acc).1 ∧ ∀ x ∈ acc.2, x ∈ (items.foldl (scStep t) acc).2 := by
  induction items generalizing acc with
  | nil => exact ⟨.refl _, fun _ => id⟩
  | cons y ys ih =>
    exact ⟨(scStep_mono t acc y).1.trans (ih _).1, fun x hx => (ih _).2 x ((scStep_mono t acc y).2 x hx)⟩

/-- **seen ⇒ skipped**, unless the node is checked as a seed / redirect target and the URL had only been recorded as an
asset -/
theorem scFold_must_skip (t : Tree) (seen : Seen) (items : List Info) (acc : Seen × List String) (hext : Ext seen acc.1)
    (i : Info) (hi : i ∈ items) (w : Bool) (hw : seen.lookup i.url = some w) (hex : w = true ∨ checkedAsSeed t i = false) :
    i.id ∈ (items.foldl (scStep t) acc).2 := by
  obtain ⟨pre, suf, rfl⟩ := List.append_of_mem hi
  rw [List.foldl_append, List.foldl_cons]
  refine (scFold_mono t suf _).2 _ ?_
  -- when `i` is looked up the store holds its URL, as a seed record if it was one: neither a new record nor a promotion
  obtain ⟨w', hw', hww⟩ := hext.trans (scFold_mono t pre acc).1 _ _ hw
  fun_cases scStep t (pre.foldl (scStep t) acc) i
  next h => cases hw'.symm.trans h
  next h hc =>
    obtain rfl := Option.some.inj (hw'.symm.trans h)
    rcases hex with rfl | hex
    · simp [hww rfl] at hc
    · simp [hex] at hc
  next => exact List.mem_cons_self

theorem scFold_records (t : Tree) (items : List Info) (acc : Seen × List String) (i : Info) (hi : i ∈ items) :
    ∃ b, (items.foldl (scStep t) acc).1.lookup i.url = some b := by
  obtain ⟨pre, suf, rfl⟩ := List.append_of_mem hi
  rw [List.foldl_append, List.foldl_cons]
  generalize pre.foldl (scStep t) acc = a
  -- the step on `i` leaves a record, and records stay
  obtain ⟨b, hb⟩ : ∃ b, (scStep t a i).1.lookup i.url = some b := by
    fun_cases scStep t a i
    next => exact ⟨_, List.lookup_cons_self⟩
    next => exact ⟨_, List.lookup_cons_self⟩
    next w h _ => exact ⟨w, h⟩
  exact ((scFold_mono t suf _).1 _ b hb).imp fun _ => And.left

theorem lookup_some_mem {u : String} {b : Bool} {s : Seen} (h : s.lookup u = some b) : u ∈ s.map Prod.fst :=
  let ⟨p, hp, e⟩ := List.lookup_isSome_iff.1 (Option.isSome_of_eq_some h)
  List.mem_map.2 ⟨p, hp, (beq_iff_eq.1 e).symm⟩

theorem scStep_new (t : Tree) (acc : Seen × List String) (i : Info) :
    (∀ x ∈ (scStep t acc i).2, x ∈ acc.2 ∨ (x = i.id ∧ i.url ∈ acc.1.map Prod.fst)) ∧
    ∀ u ∈ (scStep t acc i).1.map Prod.fst, u ∈ acc.1.map Prod.fst ∨ u = i.url := by
  fun_cases scStep t acc i
  next => exact ⟨fun _ => .inl, fun u hu => (List.mem_cons.1 hu).symm⟩
  next => exact ⟨fun _ => .inl, fun u hu => (List.mem_cons.1 hu).symm⟩
  next h _ => exact ⟨fun x hx => (List.mem_cons.1 hx).symm.imp_right fun hx => ⟨hx, lookup_some_mem h⟩, fun _ => .inl⟩

/-- **skipped ⇒ the store said so**, before this call or for an earlier node of this very call -/
theorem scFold_skip_only_reported (t : Tree) (items : List Info) (acc : Seen × List String) (x : String)
    (h : x ∈ (items.foldl (scStep t) acc).2) :
    x ∈ acc.2 ∨ ∃ pre i suf, items = pre ++ i :: suf ∧ i.id = x ∧ (i.url ∈ acc.1.map Prod.fst ∨ i.url ∈ pre.map (·.url)) := by
  induction items generalizing acc with
  | nil => exact .inl h
  | cons y ys ih =>
    rcases ih _ h with h1 | ⟨pre, i, suf, rfl, hid, hk⟩
    · -- came in with the step on y, or was there before
      exact ((scStep_new t acc y).1 x h1).imp_right fun ⟨e, hu⟩ => ⟨[], y, ys, rfl, e.symm, .inl hu⟩
    · refine .inr ⟨y :: pre, i, suf, rfl, hid, ?_⟩
      rcases hk with hk | hk
      · exact ((scStep_new t acc y).2 _ hk).imp_right fun e => List.mem_cons.2 (.inl e)
      · exact .inr (List.mem_cons_of_mem _ hk)

theorem scFold_ids (t : Tree) (items : List Info) (acc : Seen × List String) :
    ∀ x ∈ (items.foldl (scStep t) acc).2, x ∈ acc.2 ∨ ∃ i ∈ items, i.id = x := by
  intro x hx
  refine (scFold_skip_only_reported t items acc x hx).imp_right ?_
  rintro ⟨pre, i, suf, rfl, hid, _⟩
  exact ⟨i, by simp, hid⟩

/-! ### crawl HQ as the seen-store -/

def hqStep (acc : Seen × List String) (v : String) : Seen × List String :=
  if (acc.1.lookup v).isSome then acc else ((v, false) :: acc.1, acc.2 ++ [v])

theorem hqAnswer_eq (hq : Seen) (sent : List String) : hqAnswer hq sent = sent.foldl hqStep (hq, []) := rfl

theorem hq_fold_mem (sent : List String) (acc : Seen × List String) (v : String) :
    v ∈ (sent.foldl hqStep acc).2 ↔ v ∈ acc.2 ∨ (v ∈ sent ∧ acc.1.lookup v = none) := by
  induction sent generalizing acc with
  | nil => simp only [List.foldl_nil, List.not_mem_nil, false_and, or_false]
  | cons x xs ih =>
    rw [List.foldl_cons, ih, hqStep]
    -- without `List.lookup_eq_none_iff`: it takes every `lookup … = none` apart, which is slow
    by_cases hv : v = x
    · subst hv
      cases hx : acc.1.lookup v <;> simp [hx, -List.lookup_eq_none_iff]
    · cases acc.1.lookup x <;> simp [hv, lookup_cons_ne hv, -List.lookup_eq_none_iff]

theorem hqAnswer_mem (hq : Seen) (sent : List String) (v : String) :
    v ∈ (hqAnswer hq sent).2 ↔ v ∈ sent ∧ hq.lookup v = none :=
  (hq_fold_mem sent (hq, []) v).trans (or_iff_right List.not_mem_nil)

/-- `hagree`: the value sent to crawl HQ and the value compared with its answer are the same field -/
theorem hq_marked_iff (S : SF) (hagree : ∀ i, hqSendKey S i = hqCmpKey S i) (items : List Info) (hq : Seen) (i : Info)
    (hi : i ∈ items) (hf : i.st = .fresh) :
    (hqCmpKey S i ∉ (hqAnswer hq (hqSent S items)).2) ↔ (hq.lookup (hqSendKey S i)).isSome = true := by
  have hs : hqSendKey S i ∈ hqSent S items := List.mem_map_of_mem (List.mem_filter.2 ⟨hi, beq_iff_eq.2 hf⟩)
  rw [hqAnswer_mem, ← hagree i, and_iff_right hs, Option.isSome_iff_ne_none]

end Zeno.Model.Stages
