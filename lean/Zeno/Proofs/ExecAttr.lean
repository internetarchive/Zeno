import Lean.Meta.Tactic.Simp.RegisterCommand
/-- the equations that run a translated method one statement at a time (Proofs/ArithExec.lean) -/
register_simp_attr exec_eqs
