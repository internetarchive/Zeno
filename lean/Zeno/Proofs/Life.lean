import Zeno.Model.Life
import Zeno.Proofs.Stages
/-!
Every seed leaves the pipeline after a bounded number of passes (C06, and the liveness half of C01 for one seed): with
domains-crawl off, a pass lets the seed go or leaves its tree exactly one level deeper, and no tree is deeper than
`4 · max-redirect + 3`.

`Start R d t` is the shape at the start of a pass, `Mid R d P t` the shape between two stages. Both say that the tree is
*ranked* (`rk`): a node opens a new asset level (`redirects = 0`; at most three, none below a redirected parent) or
continues its parent's redirect chain (at most `R` long); `room` turns a rank into a bound on the depth.
-/
namespace Zeno.Model.Life
open Zeno.Model.Item Zeno.Model.Stages

/-! ### levels and depth -/

theorem Tree.maxDepth_node_le (i : Info) (k : Forest) (n : Nat) : (Tree.node i k).maxDepth ≤ n ↔ k = .nil ∨ k.maxDepthKids < n := by
  cases k with
  | nil => simp [Tree.maxDepth]
  | cons t f => simp only [reduceCtorEq, false_or]; rfl

theorem maxDepthKids_cons_lt (t : Tree) (f : Forest) (n : Nat) :
    (Forest.cons t f).maxDepthKids < n ↔ t.maxDepth < n ∧ (f = .nil ∨ f.maxDepthKids < n) := by
  rw [show (Forest.cons t f).maxDepthKids = max t.maxDepth f.maxDepthKids from rfl, Nat.max_lt]
  cases f with
  | nil => exact and_congr_right fun h => iff_of_true (Nat.zero_lt_of_lt h) (Or.inl rfl)
  | cons t' f' => simp only [reduceCtorEq, false_or]

mutual
theorem Tree.atLevel_nil_iff (t : Tree) (n : Nat) : t.atLevel n = [] ↔ t.maxDepth < n := by
  obtain ⟨i, k⟩ := t
  cases n with
  | zero => simp [Tree.atLevel]
  | succ n => rw [Tree.atLevel, Forest.atLevel_nil_iff k n, Nat.lt_succ_iff, Tree.maxDepth_node_le]
theorem Forest.atLevel_nil_iff (f : Forest) (n : Nat) : f.atLevel n = [] ↔ (f = .nil ∨ f.maxDepthKids < n) := by
  cases f with
  | nil => simp [Forest.atLevel]
  | cons t f =>
    rw [Forest.atLevel, List.append_eq_nil_iff, Tree.atLevel_nil_iff t n, Forest.atLevel_nil_iff f n, maxDepthKids_cons_lt]
    simp
end

theorem Tree.atLevel_maxDepth_ne_nil (t : Tree) : t.atLevel t.maxDepth ≠ [] :=
  fun h => Nat.lt_irrefl _ ((Tree.atLevel_nil_iff t t.maxDepth).1 h)

theorem maxDepth_eq_of_levels {t : Tree} {d : Nat} (h1 : t.atLevel d ≠ []) (h2 : t.atLevel (d + 1) = []) : t.maxDepth = d :=
  Nat.le_antisymm (Nat.lt_succ_iff.1 ((Tree.atLevel_nil_iff t (d + 1)).1 h2))
    (Nat.not_lt.1 fun hlt => h1 ((Tree.atLevel_nil_iff t d).2 hlt))

theorem atLevel_above_nil (t : Tree) (n : Nat) (h : t.maxDepth < n) : t.atLevel n = [] := (Tree.atLevel_nil_iff t n).2 h

theorem Tree.atLevel_zero (t : Tree) : t.atLevel 0 = [t.info] := by
  cases t; rfl

theorem Forest.atLevel_zero (f : Forest) : f.atLevel 0 = f.toList.map (·.info) := by
  cases f with
  | nil => rfl
  | cons t f => rw [Forest.atLevel, Tree.atLevel_zero, Forest.atLevel_zero f]; rfl

theorem forest_atLevel_zero_nil {k : Forest} (h : k.atLevel 0 = []) : k = .nil :=
  ((Forest.atLevel_nil_iff k 0).1 h).resolve_right (Nat.not_lt_zero _)

mutual
theorem Tree.anyPending_of_levels (t : Tree) (h : ∀ n, ∀ i ∈ t.atLevel n, i.st.pending = false) : t.anyPending = false := by
  cases t with
  | node i k =>
    rw [Tree.anyPending, Bool.or_eq_false_iff]
    exact ⟨h 0 i (.head _), Forest.anyPending_of_levels k fun n => h (n + 1)⟩
theorem Forest.anyPending_of_levels (f : Forest) (h : ∀ n, ∀ i ∈ f.atLevel n, i.st.pending = false) : f.anyPending = false := by
  cases f with
  | nil => rfl
  | cons t f =>
    rw [Forest.anyPending, Bool.or_eq_false_iff]
    exact ⟨Tree.anyPending_of_levels t fun n j hj => h n j (List.mem_append_left _ hj),
      Forest.anyPending_of_levels f fun n j hj => h n j (List.mem_append_right _ hj)⟩
end

/-! ### the rank of a tree -/

/-- the asset level of a node from its parent's: 0 for the seed; a node with `redirects = 0` opens a new level, a redirect
target stays on its parent's -/
def aLevel (pst : Option Status) (a : Nat) (i : Info) : Nat :=
  match pst with
  | none => 0
  | some _ => if i.redirects == 0 then a + 1 else a

theorem aLevel_some (p : Status) (a : Nat) (c : Info) : aLevel (some p) a c = if c.redirects == 0 then a + 1 else a := rfl

/-- `a`: the parent's asset level, `pr`: the parent's redirects, `pst`: the parent's status (none for the seed) -/
def rkNode (R : Nat) (a pr : Nat) (pst : Option Status) (i : Info) : Bool :=
  (pst.isNone || i.redirects == 0 || i.redirects == pr + 1) && !(pst == some Status.gotRedirected && i.redirects == 0) &&
    decide (i.redirects ≤ R) && decide (aLevel pst a i ≤ 3)

mutual
def _root_.Zeno.Model.Item.Tree.rk (R : Nat) (a pr : Nat) (pst : Option Status) : Tree → Bool
  | .node i k => rkNode R a pr pst i && k.rk R (aLevel pst a i) i.redirects i.st
def _root_.Zeno.Model.Item.Forest.rk (R : Nat) (a pr : Nat) (pst : Status) : Forest → Bool
  | .nil => true
  | .cons t f => t.rk R a pr (some pst) && f.rk R a pr pst
end

/-- how much deeper a tree can be below a node of asset level `a` that is `r` redirects into a chain:
`(3 - a)·(R + 1) + (R - r)`, by cases so that linear arithmetic sees it -/
def room (R : Nat) (a r : Nat) : Nat :=
  (match a with | 0 => 3 * (R + 1) | 1 => 2 * (R + 1) | 2 => R + 1 | _ => 0) + (R - r)

theorem rkNode_le {R a pr : Nat} {pst : Option Status} {i : Info} (h : rkNode R a pr pst i = true) :
    aLevel pst a i ≤ 3 ∧ i.redirects ≤ R := by
  simp only [rkNode, Bool.and_eq_true, decide_eq_true_eq] at h
  exact ⟨h.2, h.1.2⟩

theorem Tree.rk_info {R a pr : Nat} {pst : Option Status} {t : Tree} (h : t.rk R a pr pst = true) :
    rkNode R a pr pst t.info = true := by
  cases t
  exact (Bool.and_eq_true_iff.1 h).1

theorem rkNode_some {R a pr : Nat} {p : Status} {c : Info} :
    rkNode R a pr (some p) c = true ↔
      (c.redirects = 0 ∧ p ≠ .gotRedirected ∧ a < 3) ∨ (c.redirects = pr + 1 ∧ c.redirects ≤ R ∧ a ≤ 3) := by
  by_cases h0 : c.redirects = 0 <;> simp +arith [rkNode, aLevel, h0, and_assoc]

theorem room_asset (R a r : Nat) (ha : a < 3) : room R (a + 1) 0 + 1 ≤ room R a r := by
  rcases a with _ | _ | _ | a <;> simp +arith only [room, Nat.sub_zero] at ha ⊢

theorem room_redirect (R a r : Nat) (hr : r < R) : room R a (r + 1) + 1 ≤ room R a r :=
  Nat.add_le_add_left (Nat.sub_succ_lt_self R r hr) _

theorem room_child {R a r : Nat} {pst : Status} {c : Info} (h : rkNode R a r (some pst) c = true) :
    room R (aLevel (some pst) a c) c.redirects + 1 ≤ room R a r := by
  rw [aLevel_some]
  rcases rkNode_some.1 h with ⟨h0, _, ha⟩ | ⟨h1, hr, _⟩
  · rw [h0]; exact room_asset R a r ha
  · rw [h1] at hr ⊢; exact room_redirect R a r hr

mutual
theorem Tree.rk_depth (R a pr : Nat) (pst : Option Status) (t : Tree) (h : t.rk R a pr pst = true) :
    t.maxDepth ≤ room R (aLevel pst a t.info) t.info.redirects := by
  cases t with
  | node i k =>
    simp only [Tree.rk, Bool.and_eq_true] at h
    exact (Tree.maxDepth_node_le i k _).2 (Forest.rk_depth R _ _ i.st k (rkNode_le h.1).1 (rkNode_le h.1).2 h.2)
theorem Forest.rk_depth (R a pr : Nat) (pst : Status) (f : Forest) (ha : a ≤ 3) (hr : pr ≤ R) (h : f.rk R a pr pst = true) :
    f = .nil ∨ f.maxDepthKids + 1 ≤ room R a pr := by
  cases f with
  | nil => exact Or.inl rfl
  | cons t f =>
    simp only [Forest.rk, Bool.and_eq_true] at h
    exact Or.inr ((maxDepthKids_cons_lt t f _).2
      ⟨Nat.lt_of_le_of_lt (Tree.rk_depth R a pr (some pst) t h.1) (room_child (Tree.rk_info h.1)),
        Forest.rk_depth R a pr pst f ha hr h.2⟩)
end

/-- **no ranked tree is deeper than `4 · R + 3`** -/
theorem rk_depth_bound (R : Nat) (t : Tree) (h : t.rk R 0 0 none = true) : t.maxDepth ≤ 4 * R + 3 :=
  Nat.le_trans (Tree.rk_depth R 0 0 none t h) (by simp +arith only [aLevel, room, Nat.sub_le])

/-! ### operations that keep a tree ranked -/

theorem Forest.rk_pst {R a pr : Nat} {p p' : Status} {f : Forest} (hp : p' = .gotRedirected → p = .gotRedirected)
    (h : f.rk R a pr p = true) : f.rk R a pr p' = true := by
  match f with
  | .nil => rfl
  | .cons (.node c kc) f =>
    simp only [Forest.rk, Tree.rk, Bool.and_eq_true, rkNode_some] at h ⊢
    -- only an asset child looks at its parent's status
    exact h.imp (And.imp_left (Or.imp_left fun ⟨h0, hne, ha⟩ => ⟨h0, mt hp hne, ha⟩)) (Forest.rk_pst hp)

theorem rk_node_intro {R a pr : Nat} {pst : Option Status} {i i' : Info} {k' : Forest} (hr : i'.redirects = i.redirects)
    (hn : rkNode R a pr pst i = true) (hk : k'.rk R (aLevel pst a i) i.redirects i'.st = true) :
    (Tree.node i' k').rk R a pr pst = true := by
  rw [Tree.rk, Bool.and_eq_true]
  -- both look at the label's redirects only
  unfold rkNode aLevel at *
  rw [hr]
  exact ⟨hn, hk⟩

/-- a new label under which a node keeps its rank: not newly GotRedirected, since a redirected node has no asset child -/
abbrev SameRank (i i' : Info) : Prop := i'.redirects = i.redirects ∧ (i'.st = .gotRedirected → i.st = .gotRedirected)

theorem rk_node_relabel {R a pr : Nat} {pst : Option Status} {i i' : Info} {k k' : Forest} (hl : SameRank i i')
    (hk : k.rk R (aLevel pst a i) i.redirects i.st = true → k'.rk R (aLevel pst a i) i.redirects i.st = true)
    (h : (Tree.node i k).rk R a pr pst = true) : (Tree.node i' k').rk R a pr pst = true := by
  simp only [Tree.rk, Bool.and_eq_true] at h
  exact rk_node_intro hl.1 h.1 (Forest.rk_pst hl.2 (hk h.2))

theorem _root_.Zeno.Model.Stages.Relab.sameRank {New : Status → Prop} {i i' : Info} (h : Relab New i i')
    (hn : ∀ s, New s → s ≠ .gotRedirected) : SameRank i i' :=
  ⟨h.redirects, fun e => h.st.elim (fun e' => e' ▸ e) (fun e' => absurd e (hn _ e'))⟩

variable {Rel : Nat → Info → Info → Prop} {New : Status → Prop}

mutual
theorem _root_.Zeno.Model.Item.Tree.Sim.rk {n : Nat} {t t' : Tree} (h : Tree.Sim Rel n t t') (hrel : ∀ m i i', Rel m i i' → Relab New i i')
    (hn : ∀ s, New s → s ≠ .gotRedirected) {R a pr : Nat} {pst : Option Status} (hk : t.rk R a pr pst = true) :
    t'.rk R a pr pst = true := by
  obtain ⟨i, k⟩ := t
  obtain ⟨i', k'⟩ := t'
  exact rk_node_relabel ((hrel _ _ _ h.1).sameRank hn) (h.2.rk hrel hn) hk
theorem _root_.Zeno.Model.Item.Forest.Sim.rk {n : Nat} {f f' : Forest} (h : Forest.Sim Rel n f f') (hrel : ∀ m i i', Rel m i i' → Relab New i i')
    (hn : ∀ s, New s → s ≠ .gotRedirected) {R a pr : Nat} {pst : Status} (hk : f.rk R a pr pst = true) :
    f'.rk R a pr pst = true := by
  match f, f', h with
  | .nil, .nil, _ => rfl
  | .cons t f, .cons t' f', ⟨h1, h2⟩ =>
    simp only [Forest.rk, Bool.and_eq_true] at hk ⊢
    exact hk.imp (h1.rk hrel hn) (h2.rk hrel hn)
end

theorem archived_ne_redirected (s : Status) (h : s = .failed ∨ s = .archived) : s ≠ .gotRedirected := by
  rcases h with rfl | rfl <;> simp

mutual
theorem Tree.rk_prune (rm : List String) (R a pr : Nat) (pst : Option Status) (t : Tree) (h : t.rk R a pr pst = true) :
    (t.prune rm).rk R a pr pst = true := by
  cases t with
  | node i k => exact rk_node_relabel ⟨rfl, id⟩ (Forest.rk_prune rm R _ _ _ k) h
theorem Forest.rk_prune (rm : List String) (R a pr : Nat) (pst : Status) (f : Forest) (h : f.rk R a pr pst = true) :
    (f.prune rm).rk R a pr pst = true := by
  cases f with
  | nil => rfl
  | cons t f =>
    simp only [Forest.rk, Bool.and_eq_true] at h
    simp only [Forest.prune]
    split
    · exact Forest.rk_prune rm R a pr pst f h.2
    · simp only [Forest.rk, Bool.and_eq_true]
      exact ⟨Tree.rk_prune rm R a pr _ t h.1, Forest.rk_prune rm R a pr pst f h.2⟩
end

theorem Forest.atLevel_append (f g : Forest) (n : Nat) : (f.append g).atLevel n = f.atLevel n ++ g.atLevel n := by
  cases f with
  | nil => rfl
  | cons t f => rw [Forest.append, Forest.atLevel, Forest.atLevel, Forest.atLevel_append f g n, List.append_assoc]

theorem leaves_atLevel_zero (kids : List Info) : (leaves kids).atLevel 0 = kids := by
  induction kids with
  | nil => rfl
  | cons c cs ih => simp [leaves, Forest.atLevel, Tree.atLevel, ih]

theorem leaves_atLevel_succ (kids : List Info) (n : Nat) : (leaves kids).atLevel (n + 1) = [] := by
  induction kids with
  | nil => rfl
  | cons c cs ih => simp [leaves, Forest.atLevel, Tree.atLevel, ih]

theorem Forest.rk_append (R a pr : Nat) (p : Status) (f g : Forest) : (f.append g).rk R a pr p = (f.rk R a pr p && g.rk R a pr p) := by
  cases f with
  | nil => rfl
  | cons t f => rw [Forest.append, Forest.rk, Forest.rk, Forest.rk_append R a pr p f g, Bool.and_assoc]

theorem leaves_rk {R a pr : Nat} {p : Status} {kids : List Info} (h : ∀ c ∈ kids, rkNode R a pr (some p) c = true) :
    (leaves kids).rk R a pr p = true := by
  induction kids with
  | nil => rfl
  | cons c cs ih =>
    rw [List.forall_mem_cons] at h
    simp only [leaves, Forest.rk, Tree.rk, Bool.and_true, Bool.and_eq_true]
    exact ⟨h.1, ih h.2⟩

/-! ### `postprocess` keeps the tree ranked -/

/-- a redirect target stays on its parent's asset level; an asset opens the next one, which exists because assets are
extracted down to depth 2 only -/
theorem postAct_kids_rk (S : SF) (hS : okPost S = true) (cfg : Cfg) (hdc : cfg.domainsCrawl = false) (ex : String → Extract)
    {i : Info} {dnr : Int} {nk a pr : Nat} {pst : Option Status} (hn : rkNode cfg.maxRedirect a pr pst i = true)
    (hrel : (aLevel pst a i : Int) ≤ dnr) :
    ∀ c ∈ (postAct S cfg ex i dnr).kids,
      rkNode cfg.maxRedirect (aLevel pst a i) i.redirects (some ((postAct S cfg ex i dnr).st nk)) c = true := by
  intro c hc
  rw [rkNode_some]
  rcases (postAct_kids S hS cfg ex i dnr nk c hc).2.2.2 with ⟨_, hc1, hc2⟩ | ⟨hs, hc0, hdnr⟩
  · exact Or.inr ⟨hc1, hc2, (rkNode_le hn).1⟩
  · have := hdnr hdc
    exact Or.inl ⟨hc0, hs, by omega⟩

/-- a redirected node counted too, a node's depth without redirections is its parent's plus one -/
theorem nodeDnr_add (isSeed : Bool) (st : Status) (pdnr : Int) :
    nodeDnr isSeed st pdnr + (if st = .gotRedirected then 1 else 0) = if isSeed then 0 else pdnr + 1 := by
  cases isSeed <;> by_cases h : st = .gotRedirected <;> simp [nodeDnr, h]

/-- the asset level is at most the depth without redirections, a redirected node counted too: from parent to child -/
theorem aLevel_le_dnr {R a pr : Nat} {pst : Status} {c : Info} {pdnr : Int} (hn : rkNode R a pr (some pst) c = true)
    (hrel : (a : Int) ≤ pdnr + (if pst = .gotRedirected then 1 else 0)) : (aLevel (some pst) a c : Int) ≤ pdnr + 1 := by
  rw [aLevel_some]
  rcases rkNode_some.1 hn with ⟨h0, hne, _⟩ | ⟨h1, _, _⟩
  · rw [if_neg hne] at hrel
    rw [h0, beq_self_eq_true, if_pos rfl]
    omega
  · rw [h1, if_neg (by simp)]
    split at hrel <;> omega

mutual
/-- `hemp`, `hl`: nothing below the working level (`d + 1 - lvl` is the `r + 1` of `Tree.post_from`). `hrel`: the asset level is at
most the depth without redirections, a redirected node counted too (`nodeDnr_add`). -/
theorem Tree.rk_post (S : SF) (hS : okPost S = true) (cfg : Cfg) (hdc : cfg.domainsCrawl = false) (ex : String → Extract)
    (d lvl : Nat) (pdnr : Int) (isSeed : Bool) {a pr : Nat} {pst : Option Status} (t : Tree)
    (hemp : t.atLevel (d + 1 - lvl) = []) (hl : lvl ≤ d) (hrel : (aLevel pst a t.info : Int) ≤ if isSeed then 0 else pdnr + 1)
    (h : t.rk cfg.maxRedirect a pr pst = true) :
    (t.post S cfg ex d lvl pdnr isSeed).1.rk cfg.maxRedirect a pr pst = true := by
  cases t with
  | node i k =>
    have hemp' : k.atLevel (d - lvl) = [] := by rwa [Nat.sub_add_comm hl] at hemp
    rw [Tree.post_node]
    cases hld : lvl == d
    · exact rk_node_relabel ⟨rfl, id⟩
        (Forest.rk_post S hS cfg hdc ex d (lvl + 1) _ _ _ _ k (by rwa [Nat.add_sub_add_right])
          (Nat.lt_of_le_of_ne hl (ne_of_beq_false hld)) (by rwa [nodeDnr_add])) h
    · obtain rfl := eq_of_beq hld
      cases hst : i.st == .archived
      · exact rk_node_relabel ⟨rfl, id⟩ id h
      · obtain rfl := forest_atLevel_zero_nil (by rwa [Nat.sub_self] at hemp')
        rw [Tree.rk, Forest.rk, Bool.and_true] at h
        -- the node is Archived, so not redirected: its `nodeDnr` is the bound of `hrel`
        exact rk_node_intro rfl h (leaves_rk (postAct_kids_rk S hS cfg hdc ex h (by rw [eq_of_beq hst]; exact hrel)))
theorem Forest.rk_post (S : SF) (hS : okPost S = true) (cfg : Cfg) (hdc : cfg.domainsCrawl = false) (ex : String → Extract)
    (d lvl : Nat) (pdnr : Int) (a pr : Nat) (pst : Status) (f : Forest)
    (hemp : f.atLevel (d + 1 - lvl) = []) (hl : lvl ≤ d)
    (hrel : (a : Int) ≤ pdnr + (if pst = .gotRedirected then 1 else 0))
    (h : f.rk cfg.maxRedirect a pr pst = true) :
    (f.post S cfg ex d lvl pdnr).1.rk cfg.maxRedirect a pr pst = true := by
  cases f with
  | nil => rfl
  | cons t f =>
    simp only [Forest.rk, Bool.and_eq_true] at h
    simp only [Forest.atLevel, List.append_eq_nil_iff] at hemp
    simp only [Forest.post, Forest.rk, Bool.and_eq_true]
    exact ⟨Tree.rk_post S hS cfg hdc ex d lvl pdnr false t hemp.1 hl (aLevel_le_dnr (Tree.rk_info h.1) hrel) h.1,
      Forest.rk_post S hS cfg hdc ex d lvl pdnr a pr pst f hemp.2 hl hrel h.2⟩
end

/-! ### the levels of the post-processed tree -/

/-- where a node of level `n` of the post-processed tree comes from, the working level being level `r` and the last one: an old
node of that level (its status changed only if it was an Archived node of the working level), or a new Fresh child of such a node -/
def PostFrom (r n : Nat) (lev : Nat → List Info) (j : Info) : Prop :=
  (∃ i ∈ lev n, if n = r ∧ i.st = .archived then j.st.pending = false else j.st = i.st) ∨
  (n = r + 1 ∧ j.st = .fresh ∧ ∃ i ∈ lev r, i.st = .archived)

theorem PostFrom.mono {r n : Nat} {lev lev' : Nat → List Info} {j : Info} (h : PostFrom r n lev j)
    (hsub : ∀ m, ∀ i ∈ lev m, i ∈ lev' m) : PostFrom r n lev' j :=
  h.imp (Exists.imp fun i => And.imp_left (hsub n i))
    (And.imp_right (And.imp_right (Exists.imp fun i => And.imp_left (hsub r i))))

mutual
theorem Tree.post_from (S : SF) (cfg : Cfg) (ex : String → Extract) (d lvl r : Nat) (pdnr : Int) (isSeed : Bool) (t : Tree)
    (hr : lvl + r = d) (hleaf : t.atLevel (r + 1) = []) (n : Nat) :
    ∀ j ∈ (t.post S cfg ex d lvl pdnr isSeed).1.atLevel n, PostFrom r n t.atLevel j := by
  obtain ⟨i, k⟩ := t
  cases r with
  | zero =>
    obtain rfl : lvl = d := hr
    obtain rfl : k = .nil := forest_atLevel_zero_nil hleaf
    rw [Tree.post_node, beq_self_eq_true, if_pos rfl]
    cases hst : i.st == .archived
    · -- not Archived: the node keeps its status and stays childless
      cases n with
      | zero => exact List.forall_mem_singleton.2 (.inl ⟨i, .head _, by rw [if_neg fun hh => ne_of_beq_false hst hh.2]⟩)
      | succ m => exact List.forall_mem_nil _
    · rw [if_pos rfl]
      cases n with
      | zero =>
        refine List.forall_mem_singleton.2 (.inl ⟨i, .head _, ?_⟩)
        rw [if_pos ⟨rfl, eq_of_beq hst⟩]
        rcases PostAct.st_cases (postAct S cfg ex i (nodeDnr isSeed i.st pdnr)) Forest.nil.length with e | e | e <;> rw [e] <;> rfl
      | succ m =>
        -- the new children are leaves
        rw [Tree.atLevel, Forest.append]
        cases m with
        | zero =>
          rw [leaves_atLevel_zero]
          exact fun j hj => .inr ⟨rfl, (postAct_kids_fresh S cfg ex i _ j hj).1, i, .head _, eq_of_beq hst⟩
        | succ m =>
          rw [leaves_atLevel_succ]
          exact List.forall_mem_nil _
  | succ r =>
    subst hr
    rw [Tree.post_node, if_neg (by simp)]
    cases n with
    | zero => exact List.forall_mem_singleton.2 (.inl ⟨i, .head _, by rw [if_neg fun hh => nomatch hh.1]⟩)
    | succ m =>
      have := Forest.post_from S cfg ex _ (lvl + 1) r (nodeDnr isSeed i.st pdnr) k (Nat.succ_add_eq_add_succ lvl r) hleaf m
      simpa only [PostFrom, Tree.atLevel, Nat.add_right_cancel_iff] using this
theorem Forest.post_from (S : SF) (cfg : Cfg) (ex : String → Extract) (d lvl r : Nat) (pdnr : Int) (f : Forest)
    (hr : lvl + r = d) (hleaf : f.atLevel (r + 1) = []) (n : Nat) :
    ∀ j ∈ (f.post S cfg ex d lvl pdnr).1.atLevel n, PostFrom r n f.atLevel j := by
  cases f with
  | nil => exact List.forall_mem_nil _
  | cons t f =>
    rw [Forest.atLevel, List.append_eq_nil_iff] at hleaf
    rw [Forest.post]
    exact List.forall_mem_append.2
      ⟨fun j hj => (Tree.post_from S cfg ex d lvl r pdnr false t hr hleaf.1 n j hj).mono fun m i => List.mem_append_left _,
        fun j hj => (Forest.post_from S cfg ex d lvl r pdnr f hr hleaf.2 n j hj).mono fun m i => List.mem_append_right _⟩
end

/-! ### node ids (they are UUIDs: distinct) -/

def _root_.Zeno.Model.Item.Tree.idl (t : Tree) : List String := t.flatten.map (·.id)
def _root_.Zeno.Model.Item.Forest.idl (f : Forest) : List String := f.flatten.map (·.id)

theorem Tree.idl_node (i : Info) (k : Forest) : (Tree.node i k).idl = i.id :: k.idl := rfl
theorem Tree.idl_eq (t : Tree) : t.idl = t.info.id :: t.kids.idl := by cases t; exact Tree.idl_node _ _
theorem Forest.idl_cons (t : Tree) (f : Forest) : (Forest.cons t f).idl = t.idl ++ f.idl := List.map_append

theorem _root_.Zeno.Model.Item.Tree.Sim.idl {n : Nat} {t t' : Tree} (h : Tree.Sim Rel n t t')
    (hrel : ∀ m i i', Rel m i i' → Relab New i i') : t'.idl = t.idl :=
  h.flatten.map_eq (·.id) (·.id) (fun i i' ⟨m, hr⟩ => (hrel m i i' hr).id)

theorem _root_.Zeno.Model.Item.Forest.Sim.idl {n : Nat} {f f' : Forest} (h : Forest.Sim Rel n f f')
    (hrel : ∀ m i i', Rel m i i' → Relab New i i') : f'.idl = f.idl :=
  h.flatten.map_eq (·.id) (·.id) (fun i i' ⟨m, hr⟩ => (hrel m i i' hr).id)

theorem idl_setRoot (t : Tree) (s : Status) : (setRoot t s).idl = t.idl :=
  (sim_setRoot t s).idl (fun _ _ _ => setRoot_relab)

theorem idl_prune_sublist (rm : List String) (t : Tree) : (t.prune rm).idl.Sublist t.idl := by
  cases t with
  | node i k => exact (((Forest.flatten_prune rm k).trans List.filter_sublist).cons_cons i).map _

mutual
theorem Tree.atLevel_sublist_flatten (t : Tree) (n : Nat) : (t.atLevel n).Sublist t.flatten := by
  obtain ⟨i, k⟩ := t
  cases n with
  | zero => exact (List.nil_sublist _).cons_cons i
  | succ n => exact (Forest.atLevel_sublist_flatten k n).cons i
theorem Forest.atLevel_sublist_flatten (f : Forest) (n : Nat) : (f.atLevel n).Sublist f.flatten := by
  cases f with
  | nil => exact .slnil
  | cons t f => exact (Tree.atLevel_sublist_flatten t n).append (Forest.atLevel_sublist_flatten f n)
end

theorem Tree.mem_idl_of_atLevel {t : Tree} {n : Nat} {i : Info} (h : i ∈ t.atLevel n) : i.id ∈ t.idl :=
  List.mem_map_of_mem ((Tree.atLevel_sublist_flatten t n).subset h)
theorem Forest.mem_idl_of_atLevel {f : Forest} {n : Nat} {i : Info} (h : i ∈ f.atLevel n) : i.id ∈ f.idl :=
  List.mem_map_of_mem ((Forest.atLevel_sublist_flatten f n).subset h)

mutual
theorem Tree.level_unique (t : Tree) (hn : t.idl.Nodup) (n m : Nat) (i j : Info) (hi : i ∈ t.atLevel n) (hj : j ∈ t.atLevel m)
    (hid : i.id = j.id) : n = m := by
  cases t with
  | node i0 k =>
    rw [Tree.idl_node, List.nodup_cons] at hn
    -- the root is alone on level 0, and its id is not among those below
    cases n <;> cases m
    · rfl
    · obtain rfl := List.mem_singleton.1 hi
      exact absurd (hid ▸ Forest.mem_idl_of_atLevel hj) hn.1
    · obtain rfl := List.mem_singleton.1 hj
      exact absurd (hid ▸ Forest.mem_idl_of_atLevel hi) hn.1
    · rw [Forest.level_unique k hn.2 _ _ i j hi hj hid]
theorem Forest.level_unique (f : Forest) (hn : f.idl.Nodup) (n m : Nat) (i j : Info) (hi : i ∈ f.atLevel n) (hj : j ∈ f.atLevel m)
    (hid : i.id = j.id) : n = m := by
  cases f with
  | nil => cases hi
  | cons t f =>
    rw [Forest.idl_cons, List.nodup_append] at hn
    obtain ⟨h1, h2, h3⟩ := hn
    simp only [Forest.atLevel, List.mem_append] at hi hj
    rcases hi with hi | hi <;> rcases hj with hj | hj
    · exact Tree.level_unique t h1 n m i j hi hj hid
    · exact absurd hid (h3 _ (Tree.mem_idl_of_atLevel hi) _ (Forest.mem_idl_of_atLevel hj))
    · exact absurd hid.symm (h3 _ (Tree.mem_idl_of_atLevel hj) _ (Forest.mem_idl_of_atLevel hi))
    · exact Forest.level_unique f h2 n m i j hi hj hid
end

theorem level_of_id {t : Tree} (hn : t.idl.Nodup) {d : Nat} {l : List String} (hl : ∀ x ∈ l, ∃ j ∈ t.atLevel d, j.id = x)
    {m : Nat} {i : Info} (hi : i ∈ t.atLevel m) (hc : l.contains i.id = true) : m = d :=
  have ⟨j, hj, hid⟩ := hl i.id (List.contains_iff_mem.1 hc)
  Tree.level_unique t hn m d i j hi hj hid.symm

theorem ids_filter_sub {l : List Info} {p : Info → Bool} : ∀ x ∈ (l.filter p).map (·.id), ∃ j ∈ l, j.id = x :=
  List.forall_mem_map.2 fun j hj => ⟨j, (List.mem_filter.1 hj).1, rfl⟩

/-! ### rank and ids under each relabelling operation (instances of `Sim.rk`, `Sim.idl`) -/

theorem Forest.rk_setNorm (ks : List (String × NormRes)) (R a pr : Nat) (pst : Status) (f : Forest) (h : f.rk R a pr pst = true) :
    (f.setNorm ks).rk R a pr pst = true :=
  (Forest.sim_setNorm ks 0 f).rk (fun _ i _ e => e ▸ normInfo_relab ks i) nofun h

theorem Forest.rk_setStatuses (l : List String) (s : Status) (rq : Bool) (hs : s ≠ .gotRedirected) (R a pr : Nat) (pst : Status)
    (f : Forest) (h : f.rk R a pr pst = true) : (f.setStatuses l s rq).rk R a pr pst = true :=
  (Forest.sim_setStatuses l s rq 0 f).rk (fun _ i _ e => e ▸ stamp_relab l s rq i) (by rintro _ rfl; exact hs) h

theorem Forest.rk_mark (F : IF) (R a pr : Nat) (pst : Status) (f : Forest) (h : f.rk R a pr pst = true) :
    (f.mark F).rk R a pr pst = true :=
  (Forest.sim_mark F 0 f).rk (fun _ _ _ => mark_relab F) (by rintro _ rfl; nofun) h

theorem Forest.rk_archive (srv : String → Option Outcome) (d lvl : Nat) (R a pr : Nat) (pst : Status) (f : Forest)
    (h : f.rk R a pr pst = true) : (f.archive srv d lvl).rk R a pr pst = true :=
  (Forest.sim_archive srv d lvl f).rk (fun m i _ e => e ▸ (archInfo_relab srv (m == d) i).1) archived_ne_redirected h

theorem rk_setRoot (R a pr : Nat) (pst : Option Status) (t : Tree) (s : Status) (hs : s ≠ .gotRedirected) (h : t.rk R a pr pst = true) :
    (setRoot t s).rk R a pr pst = true :=
  (sim_setRoot t s).rk (fun _ _ _ => setRoot_relab) (by rintro _ rfl; exact hs) h

theorem Forest.idl_setNorm (ks : List (String × NormRes)) (f : Forest) : (f.setNorm ks).idl = f.idl :=
  (Forest.sim_setNorm ks 0 f).idl (fun _ i _ e => e ▸ normInfo_relab ks i)

theorem Forest.idl_setStatuses (l : List String) (s : Status) (rq : Bool) (f : Forest) : (f.setStatuses l s rq).idl = f.idl :=
  (Forest.sim_setStatuses l s rq 0 f).idl (fun _ i _ e => e ▸ stamp_relab l s rq i)

theorem Forest.idl_archive (srv : String → Option Outcome) (d lvl : Nat) (f : Forest) : (f.archive srv d lvl).idl = f.idl :=
  (Forest.sim_archive srv d lvl f).idl (fun m i _ e => e ▸ (archInfo_relab srv (m == d) i).1)

/-! ### the invariants between the stages -/

def PendOnly (t : Tree) (d : Nat) : Prop := ∀ n, ∀ i ∈ t.atLevel n, i.st.pending = true → n = d

structure Start (R d : Nat) (t : Tree) : Prop where
  depth : t.maxDepth = d
  ids : t.idl.Nodup
  pend : PendOnly t d
  fresh : ∀ i ∈ t.atLevel d, i.st = .fresh
  rank : t.rk R 0 0 none = true

/-- the tree between two stages of the pass working on level `d`; `P`: the statuses on level `d` -/
structure Mid (R d : Nat) (P : Status → Prop) (t : Tree) : Prop where
  ids : t.idl.Nodup
  rank : t.rk R 0 0 none = true
  top : t.atLevel (d + 1) = []
  pend : PendOnly t d
  lev : ∀ i ∈ t.atLevel d, P i.st

/-- the seed itself was rejected or has nothing left to do: the finisher will let it go -/
def RootDone (t : Tree) : Prop := t.st = .completed ∨ t.st = .failed

theorem setRoot_done {t : Tree} {s : Status} (hs : s = .completed ∨ s = .failed) : RootDone (setRoot t s) := by
  cases t; exact hs

theorem Start.toMid {R d : Nat} {t : Tree} (h : Start R d t) : Mid R d (· = .fresh) t :=
  ⟨h.ids, h.rank, atLevel_above_nil t (d + 1) (h.depth ▸ Nat.lt_succ_self d), h.pend, h.fresh⟩

theorem Mid.weaken {R d : Nat} {P Q : Status → Prop} {t : Tree} (h : Mid R d P t) (hpq : ∀ s, P s → Q s) : Mid R d Q t :=
  ⟨h.ids, h.rank, h.top, h.pend, fun i hi => hpq _ (h.lev i hi)⟩

theorem PendOnly.none {t : Tree} {d : Nat} (h : PendOnly t d) (hl : ∀ i ∈ t.atLevel d, i.st.pending = false) :
    ∀ n, ∀ i ∈ t.atLevel n, i.st.pending = false :=
  fun n i hi => Bool.eq_false_iff.2 fun hp => Bool.eq_false_iff.1 (hl i (h n i hi hp ▸ hi)) hp

/-- `hnode`, of a node `i` of level `m` and its new label `i'`: only on the working level does a label become pending, and there `P`
turns into `Q` -/
theorem Mid.sim {R d : Nat} {P Q : Status → Prop} {t t' : Tree} (h : Mid R d P t)
    (hs : Tree.Sim Rel 0 t t') (hrel : ∀ m i i', Rel m i i' → Relab New i i') (hn : ∀ s, New s → s ≠ .gotRedirected)
    (hnode : ∀ m, ∀ i ∈ t.atLevel m, ∀ i', Rel m i i' →
      (i'.st.pending = true → i.st.pending = true ∨ m = d) ∧ (m = d → P i.st → Q i'.st)) : Mid R d Q t' := by
  have hfrom (m : Nat) : ∀ j ∈ t'.atLevel m, ∃ i ∈ t.atLevel m, Rel m i j := by
    simpa only [Nat.zero_add] using (hs.atLevel m).right
  refine ⟨by rw [hs.idl hrel]; exact h.ids, hs.rk hrel hn h.rank, (hs.atLevel (d + 1)).nil_iff.2 h.top, fun m j hj hp => ?_,
    fun j hj => ?_⟩
  · obtain ⟨i, hi, hr⟩ := hfrom m j hj
    exact ((hnode m i hi j hr).1 hp).elim (h.pend m i hi) id
  · obtain ⟨i, hi, hr⟩ := hfrom d j hj
    exact (hnode d i hi j hr).2 rfl (h.lev i hi)

theorem Mid.setNorm {R d : Nat} {P : Status → Prop} {t : Tree} (h : Mid R d P t) (ks : List (String × NormRes)) :
    Mid R d P (t.setNorm ks) := by
  refine h.sim (Tree.sim_setNorm ks 0 t) (fun _ i _ e => e ▸ normInfo_relab ks i) nofun fun m i _ i' e => ?_
  rw [e, normInfo_st]
  exact ⟨Or.inl, fun _ => id⟩

theorem Mid.prune {R d : Nat} {P : Status → Prop} {t : Tree} (h : Mid R d P t) (rm : List String) : Mid R d P (t.prune rm) := by
  have hsub := Tree.atLevel_prune_sublist rm t
  exact ⟨(idl_prune_sublist rm t).nodup h.ids, Tree.rk_prune rm R 0 0 none t h.rank, List.eq_nil_of_sublist_nil (h.top ▸ hsub (d + 1)),
    fun n j hj => h.pend n j ((hsub n).subset hj), fun j hj => h.lev j ((hsub d).subset hj)⟩

theorem Mid.mark {R d : Nat} {P : Status → Prop} {t : Tree} (h : Mid R d P t) (F : IF) (hF : okSets F = true)
    (hP : ∀ s, P s → s ≠ .gotChildren ∧ s ≠ .gotRedirected) : Mid R d P (t.mark F) := by
  refine h.sim (Tree.sim_mark F 0 t) (fun _ _ _ => mark_relab F) (by rintro _ rfl; nofun) fun m i _ i' e => ?_
  rcases e with rfl | ⟨hm, rfl⟩
  · exact ⟨Or.inl, fun _ => id⟩
  · -- a node of the working level is not markable
    rw [markable_eq F hF] at hm
    exact ⟨nofun, fun _ hp => by simp [(hP _ hp).1, (hP _ hp).2] at hm⟩

theorem Mid.dedupe {R d : Nat} {t : Tree} (h : Mid R d (· = .fresh) t) (F : IF) (hF : okSets F = true) :
    Mid R d (· = .fresh) (dedupe F t) :=
  (h.prune _).mark F hF (by rintro _ rfl; simp)

theorem Mid.seen {R d : Nat} {t : Tree} (h : Mid R d (· = .fresh) t) (l : List String) :
    Mid R d (fun s => s = .fresh ∨ s = .seen) (t.setStatuses l .seen false) := by
  refine h.sim (Tree.sim_setStatuses l .seen false 0 t) (fun _ i _ e => e ▸ stamp_relab l _ _ i) (by rintro _ rfl; nofun)
    fun m i _ i' e => ?_
  rw [e, stamp_st]
  split
  · exact ⟨nofun, fun _ _ => Or.inr rfl⟩
  · exact ⟨Or.inl, fun _ => Or.inl⟩

theorem Mid.requests {R d : Nat} {t : Tree} (h : Mid R d (fun s => s = .fresh ∨ s = .seen) t) :
    Mid R d (fun s => s = .preProcessed ∨ s = .seen)
      (t.setStatuses (((t.atLevel d).filter (fun i => i.st == .fresh)).map (·.id)) .preProcessed true) := by
  refine h.sim (Tree.sim_setStatuses _ .preProcessed true 0 t) (fun _ i _ e => e ▸ stamp_relab _ _ _ i) (by rintro _ rfl; nofun)
    fun m i hi i' e => ?_
  rw [e, stamp_st]
  split
  · rename_i hc
    exact ⟨fun _ => Or.inr (level_of_id h.ids ids_filter_sub hi hc), fun _ _ => Or.inl rfl⟩
  · rename_i hc
    refine ⟨Or.inl, ?_⟩
    rintro rfl hp
    exact Or.inr (hp.resolve_left fun hs =>
      hc (List.contains_iff_mem.2 (List.mem_map_of_mem (List.mem_filter.2 ⟨hi, beq_iff_eq.2 hs⟩))))

/-! ### the four stages -/

theorem scan_flag_of_fresh (cfg : Cfg) (norm : String → Option NormRes) (t : Tree) (items : List Info) (hf : ∀ i ∈ items, i.st = .fresh) :
    (scan cfg norm t items).2.2 = none ∨
      ∃ st, (st = .failed ∨ st = .completed) ∧ (scan cfg norm t items).2.2 = some (.stop st) := by
  rw [scan_flag_eq]
  cases hfind : items.find? fun i => !(verdict cfg norm t i).quiet with
  | none => exact Or.inl rfl
  | some i =>
    -- the first verdict other than keep / remove: on a Fresh node it is a stop
    have hq := List.find?_some hfind
    have hs := verdict_spec cfg norm t i
    generalize hv : verdict cfg norm t i = v at hq hs
    cases v with
    | keep r => cases hq
    | remove => cases hq
    | panic => exact absurd (hf i (List.mem_of_find?_eq_some hfind)) hs
    | stop st => exact Or.inr ⟨st, hs.2.1, congrArg some hv⟩

/-- **which tree `preprocess` returns** when the working level is all Fresh; `l`: the ids its seen-store reported -/
theorem preprocess_tree (S : SF) (I : IF) (hg : (S.preSeencheckGuard == "always") = false) (cfg : Cfg)
    (norm : String → Option NormRes) (seen : Seen) (t : Tree) (hfresh : ∀ i ∈ t.atLevel t.maxDepth, i.st = .fresh) :
    let sc := scan cfg norm t (t.atLevel t.maxDepth)
    let t1 := (t.setNorm sc.2.1).prune sc.1
    (preprocess S I cfg norm seen t).2.2 = .ok ∧
    ((sc.2.2 = none ∧ ∃ l, (∀ x ∈ l, ∃ i ∈ (dedupe I t1).atLevel t.maxDepth, i.id = x) ∧
        (preprocess S I cfg norm seen t).1 = requested (dedupe I t1) l t.maxDepth) ∨
     (∃ st, (st = .completed ∨ st = .failed) ∧ sc.2.2 = some (.stop st) ∧ (preprocess S I cfg norm seen t).1 = setRoot t1 st)) := by
  unfold preprocess preCore
  rcases scan_flag_of_fresh cfg norm t (t.atLevel t.maxDepth) hfresh with hf | ⟨st, hst, hf⟩
  · simp only [hf]
    exact (preTail_requested S hg cfg seen _ _).imp id fun h => Or.inl ⟨trivial, h⟩
  · simp only [hf, List.isEmpty_nil, if_true]
    exact ⟨trivial, Or.inr ⟨st, hst.symm, rfl, rfl⟩⟩

theorem requested_spec {R d : Nat} {t2 : Tree} (l : List String) (h : Mid R d (· = .fresh) t2) :
    RootDone (requested t2 l d) ∨ Mid R d (fun s => s = .preProcessed ∨ s = .seen) (requested t2 l d) := by
  rcases requested_cases t2 l d with ⟨_, e⟩ | ⟨_, e⟩ <;> rw [e]
  · exact Or.inl (setRoot_done (Or.inl rfl))
  · exact Or.inr (h.seen l).requests

/-- **preprocess.** Afterwards the seed itself is done (rejected, or nothing left to fetch), or every node of the working
level is PreProcessed or Seen and nothing else is pending. -/
theorem pre_spec (S : SF) (I : IF) (hI : okSets I = true) (hg : (S.preSeencheckGuard == "always") = false) (cfg : Cfg)
    (norm : String → Option NormRes) (seen : Seen) {R d : Nat} {t : Tree} (h : Start R d t) :
    let p := preprocess S I cfg norm seen t
    p.2.2 = .ok ∧ (RootDone p.1 ∨ Mid R d (fun s => s = .preProcessed ∨ s = .seen) p.1) := by
  obtain ⟨hok, hc⟩ := preprocess_tree S I hg cfg norm seen t (by rw [h.depth]; exact h.fresh)
  rw [h.depth] at hc
  refine ⟨hok, ?_⟩
  rcases hc with ⟨_, l, _, e⟩ | ⟨st, hst, _, e⟩
  · rw [e]; exact requested_spec l (((h.toMid.setNorm _).prune _).dedupe I hI)
  · rw [e]; exact Or.inl (setRoot_done hst)

theorem archive_root (srv : String → Option Outcome) (t : Tree) : (archive srv t).info = archInfo srv (0 == t.maxDepth) t.info := by
  have h := Tree.atLevel_archive srv t.maxDepth 0 t 0
  rw [Tree.atLevel_zero, Tree.atLevel_zero] at h
  simpa [archive] using h

theorem archInfo_st_ne (srv : String → Option Outcome) (b : Bool) (i : Info) (h : i.st ≠ .preProcessed) : archInfo srv b i = i :=
  (archInfo_st srv b i).elim (·.2) (fun h' => absurd h'.2.1 h)

theorem archive_rootDone (srv : String → Option Outcome) {t : Tree} (h : RootDone t) : RootDone (archive srv t) := by
  unfold RootDone Tree.st at *
  rw [archive_root, archInfo_st_ne]
  · exact h
  · rcases h with h | h <;> rw [h] <;> simp

theorem arch_spec (srv : String → Option Outcome) {R d : Nat} {t : Tree} (h : Mid R d (fun s => s = .preProcessed ∨ s = .seen) t) :
    Mid R d (fun s => s = .archived ∨ s = .failed ∨ s = .seen) (archive srv t) := by
  refine h.sim (Tree.sim_archive srv t.maxDepth 0 t) (fun _ i _ e => e ▸ (archInfo_relab srv _ i).1) archived_ne_redirected
    fun m i hi i' e => ?_
  subst e
  rcases archInfo_st srv (m == t.maxDepth) i with ⟨hn, e⟩ | ⟨_, hs, e⟩
  · rw [e]
    refine ⟨Or.inl, ?_⟩
    rintro rfl hp
    -- level `d` is the last one, so the working level of `archive`: a node it leaves alone there is not PreProcessed
    have hmd : t.maxDepth = m := maxDepth_eq_of_levels (List.ne_nil_of_mem hi) h.top
    exact Or.inr (Or.inr (hp.resolve_left fun hs => hn ⟨beq_iff_eq.2 hmd.symm, hs⟩))
  · exact ⟨fun _ => Or.inl (hs ▸ rfl), fun _ _ => e.elim (Or.inr ∘ Or.inl) Or.inl⟩

theorem post_root_st (S : SF) (cfg : Cfg) (ex : String → Extract) (d lvl : Nat) (pdnr : Int) (isSeed : Bool) (t : Tree)
    (h : t.st ≠ .archived) : (t.post S cfg ex d lvl pdnr isSeed).1.st = t.st := by
  cases t with
  | node i k =>
    have hna : (i.st == Status.archived) = false := beq_eq_false_iff_ne.2 h
    rw [Tree.post_node, hna]
    cases lvl == d <;> rfl

theorem post_rootDone (S : SF) (cfg : Cfg) (ex : String → Extract) {t : Tree} (h : RootDone t) : RootDone (postprocess S cfg ex t).1 := by
  unfold RootDone postprocess at *
  rw [post_root_st]
  · exact h
  · rcases h with h | h <;> rw [h] <;> simp

/-- **postprocess.** Afterwards nothing is pending except new Fresh children one level further down. -/
theorem post_spec (S : SF) (hS : okPost S = true) (cfg : Cfg) (hdc : cfg.domainsCrawl = false) (ex : String → Extract) {d : Nat} {t : Tree}
    (h : Mid cfg.maxRedirect d (fun s => s = .archived ∨ s = .failed ∨ s = .seen) t)
    (hid : (postprocess S cfg ex t).1.idl.Nodup) :
    Mid cfg.maxRedirect (d + 1) (· = .fresh) (postprocess S cfg ex t).1 := by
  have hw : t.maxDepth ≤ d := Nat.lt_succ_iff.1 ((Tree.atLevel_nil_iff t (d + 1)).1 h.top)
  -- what is pending in the new tree, or lies below level `d`, is a new child. An old node lies no deeper than `d`; pending, it was
  -- an Archived node of level `d`, then the last level and the working one, where `post` leaves no status pending. A new child
  -- hangs below an Archived node of the working level: that node was pending, so on level `d`.
  have key : ∀ n, ∀ j ∈ (postprocess S cfg ex t).1.atLevel n, j.st.pending = true ∨ d < n → n = d + 1 ∧ j.st = .fresh := by
    intro n j hj hc
    rcases Tree.post_from S cfg ex t.maxDepth (lvl := 0) (r := t.maxDepth) (pdnr := 0) (isSeed := true) t (Nat.zero_add _)
      (atLevel_above_nil t _ (Nat.lt_succ_self _)) n j hj with ⟨i, hi, hs⟩ | ⟨h1, h2, i, hi, h3⟩
    · exfalso
      have hn : n ≤ t.maxDepth := Nat.not_lt.1 fun hlt => List.ne_nil_of_mem hi (atLevel_above_nil t n hlt)
      rcases hc with hp | hlt
      · split at hs
        · rw [hs] at hp; cases hp
        · rename_i hcond
          rw [hs] at hp
          obtain rfl := h.pend n i hi hp
          refine hcond ⟨Nat.le_antisymm hn hw, (h.lev i hi).resolve_right fun e => ?_⟩
          rcases e with e | e <;> rw [e] at hp <;> cases hp
      · exact Nat.not_lt_of_le (Nat.le_trans hn hw) hlt
    · exact ⟨h.pend _ i hi (by rw [h3]; rfl) ▸ h1, h2⟩
  refine ⟨hid, ?_, List.eq_nil_iff_forall_not_mem.2 fun j hj => Nat.succ_ne_self _ (key _ j hj (.inr (Nat.lt_succ_of_lt (Nat.lt_succ_self d)))).1,
    fun n j hj hp => (key n j hj (.inl hp)).1, fun j hj => (key _ j hj (.inr (Nat.lt_succ_self d))).2⟩
  · exact Tree.rk_post S hS cfg hdc ex t.maxDepth (lvl := 0) (pdnr := 0) (isSeed := true) t
      (atLevel_above_nil t _ (Nat.lt_succ_self _)) (Nat.zero_le _) (Int.le_refl _) h.rank

theorem finisher_eq (I : IF) (t : Tree) (h : t.st ≠ .fresh) :
    finisher I t = if hasWork I t.st && hasWork I (t.mark I).st then (t.mark I, .feedback)
      else (if hasWork I t.st then t.mark I else t, .finish) := by
  unfold finisher completeAndCheck
  rw [beq_eq_false_iff_ne.2 h]
  dsimp only  -- the `let` of `completeAndCheck` keeps the second test from `cases`
  cases hasWork I t.st
  · rfl
  · cases hasWork I (t.mark I).st <;> rfl

theorem finisher_tree (I : IF) (t : Tree) : (finisher I t).1 = t ∨ (finisher I t).1 = t.mark I := by
  unfold finisher completeAndCheck
  cases t.st == .fresh
  · cases hasWork I t.st
    · exact Or.inl rfl
    · exact Or.inr rfl
  · exact Or.inl rfl

theorem fin_rootDone (I : IF) (hI : okSets I = true) {t : Tree} (h : RootDone t) : (finisher I t).2 = .finish := by
  rw [finisher_eq I t (by rcases h with h | h <;> rw [h] <;> simp), hasWork_eq I hI]
  rcases h with h | h <;> rw [h] <;> rfl

/-- **finisher.** The seed is let go, or sent round again with its tree one level deeper, in the start-of-pass shape. -/
theorem fin_spec (I : IF) (hI : okSets I = true) {R d : Nat} {t : Tree} (h : Mid R (d + 1) (· = .fresh) t) :
    (finisher I t).2 = .finish ∨ ((finisher I t).2 = .feedback ∧ Start R (d + 1) (finisher I t).1) := by
  -- a Fresh root would be pending, on level 0
  have hroot : t.st ≠ .fresh := fun hf =>
    nomatch h.pend 0 t.info (Tree.atLevel_zero t ▸ .head _) (congrArg Status.pending hf)
  rw [finisher_eq I t hroot]
  split
  · rename_i hw
    refine Or.inr ⟨rfl, ?_⟩
    have hm := h.mark I hI (by rintro _ rfl; simp)
    -- the new level is not empty: otherwise nothing is pending and marking leaves the seed without work
    have hne : t.atLevel (d + 1) ≠ [] := fun hemp => by
      have hnp := Tree.anyPending_of_levels t (h.pend.none (hemp ▸ List.forall_mem_nil _))
      rw [Tree.mark_done I hI t hnp, Bool.and_false] at hw
      cases hw
    exact ⟨maxDepth_eq_of_levels (mt ((Tree.sim_mark I 0 t).atLevel _).nil_iff.1 hne) hm.top, hm.ids, hm.pend, hm.lev, hm.rank⟩
  · exact Or.inl rfl

/-! ### one pass, and the whole life of a seed -/

/-- the nodes created in this pass get ids that are not in use in the tree (ids are UUIDs) -/
def passIds (S : SF) (I : IF) (cfg : Cfg) (o : Oracle) (seen : Seen) (t : Tree) : Bool :=
  decide (postprocess S cfg o.ex (archive o.srv (preprocess S I cfg o.norm seen t).1)).1.idl.Nodup

/-- `passIds` in every pass of a life -/
def idsOK (S : SF) (I : IF) (cfg : Cfg) : List Oracle → Seen → Tree → Bool
  | [], _, _ => true
  | o :: os, seen, t =>
    passIds S I cfg o seen t &&
      (!((pass S I cfg o seen t).act == .feedback) || idsOK S I cfg os (pass S I cfg o seen t).seen (pass S I cfg o seen t).tree)

theorem idsOK_cons {S : SF} {I : IF} {cfg : Cfg} {o : Oracle} {os : List Oracle} {seen : Seen} {t : Tree}
    (h : idsOK S I cfg (o :: os) seen t = true) :
    passIds S I cfg o seen t = true ∧ ((pass S I cfg o seen t).act = .feedback →
      idsOK S I cfg os (pass S I cfg o seen t).seen (pass S I cfg o seen t).tree = true) := by
  simp only [idsOK, Bool.and_eq_true, Bool.or_eq_true, Bool.not_eq_true'] at h
  exact ⟨h.1, fun hf => h.2.resolve_left (by simp [hf])⟩

/-- the facts about the source that the theorems below rest on, from the one Boolean a property file decides -/
theorem life_facts {S : SF} {I : IF} (h : (okPost S && okSets I && !(S.preSeencheckGuard == "always")) = true) :
    okPost S = true ∧ okSets I = true ∧ (S.preSeencheckGuard == "always") = false := by
  simpa only [Bool.and_eq_true, Bool.not_eq_true', and_assoc] using h

/-- **One pass** never panics, and ends with the finisher letting the seed go, or sending it round again with a tree exactly
one level deeper, again in start-of-pass shape. -/
theorem pass_progress (S : SF) (hS : okPost S = true) (hg : (S.preSeencheckGuard == "always") = false) (I : IF) (hI : okSets I = true)
    (cfg : Cfg) (hdc : cfg.domainsCrawl = false) (o : Oracle) (seen : Seen) {d : Nat} {t : Tree}
    (h : Start cfg.maxRedirect d t) (hid : passIds S I cfg o seen t = true) :
    (pass S I cfg o seen t).pre = .ok ∧
      ((pass S I cfg o seen t).act = .finish ∨
       ((pass S I cfg o seen t).act = .feedback ∧ Start cfg.maxRedirect (d + 1) (pass S I cfg o seen t).tree)) := by
  obtain ⟨hok, hc⟩ := pre_spec S I hI hg cfg o.norm seen h
  refine ⟨hok, ?_⟩
  simp only [pass]
  rcases hc with hc | hc
  · exact Or.inl (fin_rootDone I hI (post_rootDone S cfg o.ex (archive_rootDone o.srv hc)))
  · exact fin_spec I hI (post_spec S hS cfg hdc o.ex (arch_spec o.srv hc) (of_decide_eq_true hid))

theorem start_depth_le {R d : Nat} {t : Tree} (h : Start R d t) : d ≤ 4 * R + 3 :=
  h.depth ▸ rk_depth_bound R t h.rank

/-- **Bounded passes.** Whatever the oracles of the successive passes answer, the finisher lets the seed go after at most
`4 · max-redirect + 4 - d` passes. -/
theorem life_bounded (S : SF) (hS : okPost S = true) (hg : (S.preSeencheckGuard == "always") = false) (I : IF) (hI : okSets I = true)
    (cfg : Cfg) (hdc : cfg.domainsCrawl = false) (os : List Oracle) :
    ∀ (seen : Seen) (d : Nat) (t : Tree), Start cfg.maxRedirect d t → idsOK S I cfg os seen t = true →
      4 * cfg.maxRedirect + 4 ≤ d + os.length →
      (life S I cfg os seen t).2.isSome = true ∧ (life S I cfg os seen t).1 + d ≤ 4 * cfg.maxRedirect + 4 := by
  induction os with
  | nil => exact fun seen d t h _ hlen => absurd (start_depth_le h) (Nat.not_le.2 hlen)
  | cons o os ih =>
    intro seen d t h hids hlen
    obtain ⟨hid, hrest⟩ := idsOK_cons hids
    obtain ⟨_, hc⟩ := pass_progress S hS hg I hI cfg hdc o seen h hid
    simp only [life]
    rcases hc with hf | ⟨hf, hst⟩
    · simp only [hf]
      exact ⟨rfl, by simpa +arith using start_depth_le h⟩
    · simp only [hf, beq_self_eq_true, if_true]
      have := ih _ (d + 1) _ hst (hrest hf) (by simpa +arith only [List.length_cons] using hlen)
      exact ⟨this.1, by simpa +arith only using this.2⟩

theorem start_seed (R : Nat) (i : Info) (hf : i.st = .fresh) (hr : i.redirects = 0) : Start R 0 (Tree.node i .nil) := by
  refine ⟨rfl, List.pairwise_singleton _ _, fun n j hj _ => ?_, fun j hj => List.mem_singleton.1 hj ▸ hf,
    by simp [Tree.rk, Forest.rk, rkNode, aLevel, hr]⟩
  cases n with
  | zero => rfl
  | succ m => cases hj

end Zeno.Model.Life
