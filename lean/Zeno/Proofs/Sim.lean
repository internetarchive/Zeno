import Zeno.Model.Stages
import Zeno.Proofs.Item
/-!
Relabelling. `setNorm`, `setStatuses`, `archive`, `setRoot` and `mark` keep the shape of a tree and change labels.
`Tree.Sim R n t t'`: same shape, and `R m i i'` for every node `i` of `t` at level `m` (the root being at level `n`)
and the node `i'` in its place in `t'`.
-/
namespace Zeno.Model.Stages
open Zeno.Model.Item

inductive Paired (R : Info → Info → Prop) : List Info → List Info → Prop
  | nil : Paired R [] []
  | cons {a b : Info} {l l' : List Info} : R a b → Paired R l l' → Paired R (a :: l) (b :: l')

namespace Paired
variable {R : Info → Info → Prop} {l l' m m' : List Info}

theorem append (h : Paired R l l') (g : Paired R m m') : Paired R (l ++ m) (l' ++ m') := by
  induction h with
  | nil => exact g
  | cons hr _ ih => exact .cons hr ih

theorem right (h : Paired R l l') : ∀ j ∈ l', ∃ i ∈ l, R i j := by
  induction h with
  | nil => exact List.forall_mem_nil _
  | cons hr _ ih =>
    exact List.forall_mem_cons.2 ⟨⟨_, List.mem_cons_self, hr⟩,
      fun j hj => (ih j hj).imp fun i hi => ⟨List.mem_cons_of_mem _ hi.1, hi.2⟩⟩

theorem map_eq {β} (f g : Info → β) (h : Paired R l l') (hfg : ∀ i i', R i i' → f i' = g i) : l'.map f = l.map g := by
  induction h with
  | nil => rfl
  | cons hr _ ih => simp [hfg _ _ hr, ih]

theorem nil_iff (h : Paired R l l') : l' = [] ↔ l = [] := by
  cases h <;> simp

theorem isEmpty_eq (h : Paired R l l') : l'.isEmpty = l.isEmpty := by
  cases h <;> rfl

end Paired

end Zeno.Model.Stages

namespace Zeno.Model.Item
open Zeno.Model.Stages

mutual
def Tree.Sim (R : Nat → Info → Info → Prop) (n : Nat) : Tree → Tree → Prop
  | .node i k, .node i' k' => R n i i' ∧ k.Sim R (n + 1) k'
def Forest.Sim (R : Nat → Info → Info → Prop) (n : Nat) : Forest → Forest → Prop
  | .nil, .nil => True
  | .cons t f, .cons t' f' => t.Sim R n t' ∧ f.Sim R n f'
  | .nil, .cons _ _ => False
  | .cons _ _, .nil => False
end

variable {R : Nat → Info → Info → Prop}

mutual
theorem Tree.Sim.refl (n : Nat) (t : Tree) (hr : ∀ m i, n ≤ m → R m i i) : Tree.Sim R n t t := by
  cases t with
  | node i k => exact ⟨hr n i (Nat.le_refl n), Forest.Sim.refl (n + 1) k (fun m j hm => hr m j (Nat.le_of_succ_le hm))⟩
theorem Forest.Sim.refl (n : Nat) (f : Forest) (hr : ∀ m i, n ≤ m → R m i i) : Forest.Sim R n f f := by
  cases f with
  | nil => trivial
  | cons t f => exact ⟨Tree.Sim.refl n t hr, Forest.Sim.refl n f hr⟩
end

mutual
theorem Tree.Sim.atLevel {n : Nat} {t t' : Tree} (h : Tree.Sim R n t t') (m : Nat) :
    Paired (R (n + m)) (t.atLevel m) (t'.atLevel m) := by
  obtain ⟨_, k⟩ := t
  obtain ⟨_, k'⟩ := t'
  cases m with
  | zero => exact .cons h.1 .nil
  | succ m => exact Nat.succ_add_eq_add_succ n m ▸ h.2.atLevel m
theorem Forest.Sim.atLevel {n : Nat} {f f' : Forest} (h : Forest.Sim R n f f') (m : Nat) :
    Paired (R (n + m)) (f.atLevel m) (f'.atLevel m) := by
  match f, f', h with
  | .nil, .nil, _ => exact .nil
  | .cons t f, .cons t' f', ⟨h1, h2⟩ => exact (h1.atLevel m).append (h2.atLevel m)
end

mutual
theorem Tree.Sim.flatten {n : Nat} {t t' : Tree} (h : Tree.Sim R n t t') :
    Paired (fun i i' => ∃ m, R m i i') t.flatten t'.flatten := by
  obtain ⟨i, k⟩ := t
  obtain ⟨i', k'⟩ := t'
  exact .cons ⟨n, h.1⟩ h.2.flatten
theorem Forest.Sim.flatten {n : Nat} {f f' : Forest} (h : Forest.Sim R n f f') :
    Paired (fun i i' => ∃ m, R m i i') f.flatten f'.flatten := by
  match f, f', h with
  | .nil, .nil, _ => exact .nil
  | .cons t f, .cons t' f', ⟨h1, h2⟩ => exact h1.flatten.append h2.flatten
end

theorem Forest.Sim.length {n : Nat} {f f' : Forest} (h : Forest.Sim R n f f') : f'.length = f.length := by
  match f, f', h with
  | .nil, .nil, _ => rfl
  | .cons _ f, .cons _ f', ⟨_, h2⟩ => simp [Forest.length, h2.length]

end Zeno.Model.Item

namespace Zeno.Model.Stages
open Zeno.Model.Item

/-! ### the operations that relabel -/

/-- what `setNorm ks` leaves on a node -/
def normInfo (ks : List (String × NormRes)) (i : Info) : Info :=
  match ks.lookup i.id with
  | some r => { i with url := r.canon, host := r.host, path := r.path, raw := r.href }
  | none => i

/-- what `setStatuses l s rq` leaves on a node -/
def stamp (l : List String) (s : Status) (rq : Bool) (i : Info) : Info :=
  if l.contains i.id then { i with st := s, req := i.req || rq } else i

mutual
theorem Tree.sim_setNorm (ks : List (String × NormRes)) (n : Nat) (t : Tree) :
    Tree.Sim (fun _ i i' => i' = normInfo ks i) n t (t.setNorm ks) := by
  cases t with
  | node i k => exact ⟨rfl, Forest.sim_setNorm ks (n + 1) k⟩
theorem Forest.sim_setNorm (ks : List (String × NormRes)) (n : Nat) (f : Forest) :
    Forest.Sim (fun _ i i' => i' = normInfo ks i) n f (f.setNorm ks) := by
  cases f with
  | nil => trivial
  | cons t f => exact ⟨Tree.sim_setNorm ks n t, Forest.sim_setNorm ks n f⟩
end

mutual
theorem Tree.sim_setStatuses (l : List String) (s : Status) (rq : Bool) (n : Nat) (t : Tree) :
    Tree.Sim (fun _ i i' => i' = stamp l s rq i) n t (t.setStatuses l s rq) := by
  cases t with
  | node i k => exact ⟨rfl, Forest.sim_setStatuses l s rq (n + 1) k⟩
theorem Forest.sim_setStatuses (l : List String) (s : Status) (rq : Bool) (n : Nat) (f : Forest) :
    Forest.Sim (fun _ i i' => i' = stamp l s rq i) n f (f.setStatuses l s rq) := by
  cases f with
  | nil => trivial
  | cons t f => exact ⟨Tree.sim_setStatuses l s rq n t, Forest.sim_setStatuses l s rq n f⟩
end

/-- what rank and ids need of a relabelled node (and `via`, for consistency) -/
structure Relab (New : Status → Prop) (i i' : Info) : Prop where
  id : i'.id = i.id
  redirects : i'.redirects = i.redirects
  via : i'.via = i.via
  st : i'.st = i.st ∨ New i'.st

theorem Relab.refl {New : Status → Prop} (i : Info) : Relab New i i := ⟨rfl, rfl, rfl, .inl rfl⟩

theorem normInfo_relab (ks : List (String × NormRes)) (i : Info) : Relab (fun _ => False) i (normInfo ks i) := by
  fun_cases normInfo ks i <;> exact ⟨rfl, rfl, rfl, .inl rfl⟩

theorem normInfo_st (ks : List (String × NormRes)) (i : Info) : (normInfo ks i).st = i.st :=
  (normInfo_relab ks i).st.resolve_right id

theorem stamp_relab (l : List String) (s : Status) (rq : Bool) (i : Info) : Relab (· = s) i (stamp l s rq i) := by
  fun_cases stamp l s rq i
  · exact ⟨rfl, rfl, rfl, .inr rfl⟩
  · exact .refl i

theorem stamp_url (l : List String) (s : Status) (rq : Bool) (i : Info) : (stamp l s rq i).url = i.url := by
  fun_cases stamp l s rq i <;> rfl

theorem stamp_st (l : List String) (s : Status) (rq : Bool) (i : Info) :
    (stamp l s rq i).st = if l.contains i.id then s else i.st :=
  apply_ite Info.st ..

/-- what `archive` leaves on a node; `b`: the node is on the working level -/
def archInfo (srv : String → Option Outcome) (b : Bool) (i : Info) : Info :=
  if b && i.st == .preProcessed then
    match srv i.id with
    | some o => if o.fail then { i with st := .failed }
                else { i with st := .archived, resp := o.status, loc := o.loc, html := o.html, body := o.body }
    | none => { i with st := .failed }
  else i

theorem archInfo_false (srv : String → Option Outcome) (i : Info) : archInfo srv false i = i := by simp [archInfo]

theorem archInfo_st (srv : String → Option Outcome) (b : Bool) (i : Info) :
    (¬ (b = true ∧ i.st = .preProcessed) ∧ archInfo srv b i = i) ∨
    (b = true ∧ i.st = .preProcessed ∧ ((archInfo srv b i).st = .failed ∨ (archInfo srv b i).st = .archived)) := by
  -- the statement in terms of the test `archInfo` makes
  rw [← and_assoc, ← beq_iff_eq (a := i.st), ← Bool.and_eq_true]
  fun_cases archInfo srv b i
  · exact .inr ⟨‹_›, .inl rfl⟩
  · exact .inr ⟨‹_›, .inr rfl⟩
  · exact .inr ⟨‹_›, .inl rfl⟩
  · exact .inl ⟨‹_›, rfl⟩

theorem archInfo_relab (srv : String → Option Outcome) (b : Bool) (i : Info) :
    Relab (fun s => s = .failed ∨ s = .archived) i (archInfo srv b i) ∧ (archInfo srv b i).url = i.url := by
  fun_cases archInfo srv b i
  · exact ⟨⟨rfl, rfl, rfl, .inr (.inl rfl)⟩, rfl⟩
  · exact ⟨⟨rfl, rfl, rfl, .inr (.inr rfl)⟩, rfl⟩
  · exact ⟨⟨rfl, rfl, rfl, .inr (.inl rfl)⟩, rfl⟩
  · exact ⟨.refl i, rfl⟩

theorem Tree.archive_node (srv : String → Option Outcome) (d lvl : Nat) (i : Info) (k : Forest) :
    (Tree.node i k).archive srv d lvl =
      if lvl == d then .node (archInfo srv true i) k else .node i (k.archive srv d (lvl + 1)) := by
  unfold Tree.archive
  delta archInfo  -- `unfold archInfo` is slow to check here
  cases lvl == d
  · rfl
  · cases i.st == .preProcessed
    · rfl
    · cases srv i.id with
      | none => rfl
      | some o => exact (apply_ite (Tree.node · k) ..).symm

mutual
theorem Tree.sim_archive (srv : String → Option Outcome) (d lvl : Nat) (t : Tree) :
    Tree.Sim (fun m i i' => i' = archInfo srv (m == d) i) lvl t (t.archive srv d lvl) := by
  cases t with
  | node i k =>
    rw [Tree.archive_node]
    cases hl : lvl == d
    · exact ⟨by simp only [hl, archInfo_false], Forest.sim_archive srv d (lvl + 1) k⟩
    · -- below the working level nothing changes
      obtain rfl := eq_of_beq hl
      refine ⟨by simp only [hl], Forest.Sim.refl (lvl + 1) k (fun m j hm => ?_)⟩
      rw [beq_eq_false_iff_ne.2 (Nat.ne_of_gt hm), archInfo_false]
theorem Forest.sim_archive (srv : String → Option Outcome) (d lvl : Nat) (f : Forest) :
    Forest.Sim (fun m i i' => i' = archInfo srv (m == d) i) lvl f (f.archive srv d lvl) := by
  cases f with
  | nil => trivial
  | cons t f => exact ⟨Tree.sim_archive srv d lvl t, Forest.sim_archive srv d lvl f⟩
end

theorem sim_setRoot (t : Tree) (s : Status) :
    Tree.Sim (fun m i i' => i' = if m = 0 then { i with st := s } else i) 0 t (setRoot t s) := by
  cases t with
  | node i k => exact ⟨rfl, Forest.Sim.refl 1 k (fun m j hm => (if_neg (Nat.ne_of_gt hm)).symm)⟩

theorem setRoot_relab {s : Status} {m : Nat} {i i' : Info} (h : i' = if m = 0 then { i with st := s } else i) : Relab (· = s) i i' := by
  subst h
  split
  · exact ⟨rfl, rfl, rfl, .inr rfl⟩
  · exact .refl i

mutual
theorem Tree.sim_mark (F : IF) (n : Nat) (t : Tree) :
    Tree.Sim (fun _ i i' => i' = i ∨ (F.markableStatuses.contains i.st.name = true ∧ i' = { i with st := .completed })) n t (t.mark F) := by
  cases t with
  | node i k =>
    rw [Tree.mark_node]
    refine ⟨?_, Forest.sim_mark F (n + 1) k⟩
    split
    · rename_i hc
      exact .inr ⟨(Bool.and_eq_true_iff.1 hc).2, rfl⟩
    · exact .inl rfl
theorem Forest.sim_mark (F : IF) (n : Nat) (f : Forest) :
    Forest.Sim (fun _ i i' => i' = i ∨ (F.markableStatuses.contains i.st.name = true ∧ i' = { i with st := .completed })) n f (f.mark F) := by
  cases f with
  | nil => trivial
  | cons t f => exact ⟨Tree.sim_mark F n t, Forest.sim_mark F n f⟩
end

theorem mark_relab (F : IF) {i i' : Info}
    (h : i' = i ∨ (F.markableStatuses.contains i.st.name = true ∧ i' = { i with st := .completed })) : Relab (· = .completed) i i' := by
  rcases h with rfl | ⟨_, rfl⟩
  · exact .refl _
  · exact ⟨rfl, rfl, rfl, .inr rfl⟩

end Zeno.Model.Stages
