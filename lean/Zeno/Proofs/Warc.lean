import Zeno.Model.Warc
/-!
The event log: `Req` says what an event needs to have happened before it; a log whose every event has that (`Closed`)
stays so along an admissible run. The retry loop: one turn at a time (`visitFrom_step`).
-/
namespace Zeno.Model.Warc

/-! ### used in the statements of Props/C02, C04 -/

/-- the source shapes the log model mirrors (`facts_ok` of C02 and C04 evaluate them); `guard_req` uses all but
`failedAttemptsDrainBody` and `processBodyBeforeWait` -/
def okOrder (A : AF) (Q : QF) : Bool :=
  A.feedbackChanUnlessAsync && A.feedbackAwaitedBeforeArchived && A.failedAttemptsAwaitFeedback && A.failedAttemptsDrainBody &&
  A.processBodyBeforeWait && Q.finishNotifiesAfterMark

/-! ### the event log -/

def Req (fetched : Nat → List Nat) (pre : List Ev) : Ev → Prop
  | .written _ => True
  | .archived u | .settled u => Ev.written u ∈ pre
  | .notify s => ∀ u ∈ fetched s, Ev.archived u ∈ pre ∨ Ev.settled u ∈ pre
  | .deleted s => Ev.notify s ∈ pre

def Closed (fetched : Nat → List Nat) (pre : List Ev) : Prop := ∀ e ∈ pre, Req fetched pre e

section
variable {A : AF} {Q : QF} {fetched : Nat → List Nat} {pre : List Ev}

theorem Req.mono {pre' : List Ev} {e : Ev} (hs : pre ⊆ pre') (h : Req fetched pre e) : Req fetched pre' e := by
  cases e with
  | written _ => trivial
  | archived _ | settled _ | deleted _ => exact hs h
  | notify s => exact fun u hu => (h u hu).imp (hs ·) (hs ·)

theorem guard_req (hok : okOrder A Q = true) {e : Ev} (hg : guard A Q true fetched pre e = true) : Req fetched pre e := by
  simp only [okOrder, Bool.and_eq_true] at hok
  obtain ⟨⟨⟨⟨⟨h1, h2⟩, h3⟩, -⟩, -⟩, h4⟩ := hok
  cases e with
  | written _ => trivial
  | _ => simpa [guard, Req, h1, h2, h3, h4] using hg

theorem closed_run (hok : okOrder A Q = true) {log : List Ev} (hc : Closed fetched pre)
    (ha : admissible A Q true fetched pre log = true) : Closed fetched (pre ++ log) := by
  induction log generalizing pre with
  | nil => simpa using hc
  | cons e rest ih =>
    simp only [admissible, Bool.and_eq_true] at ha
    have hsub := List.subset_append_left pre [e]
    rw [List.append_cons]
    exact ih (List.forall_mem_append.2 ⟨fun e' h => (hc e' h).mono hsub,
      List.forall_mem_singleton.2 ((guard_req hok ha.1).mono hsub)⟩) ha.2

theorem admissible_append {sync : Bool} (a b : List Ev) :
    admissible A Q sync fetched pre (a ++ b) =
      (admissible A Q sync fetched pre a && admissible A Q sync fetched (pre ++ a) b) := by
  induction a generalizing pre with
  | nil => simp [admissible]
  | cons e rest ih => simp [admissible, ih, Bool.and_assoc]

/-- what is on disk after a crash is an admissible log too -/
theorem admissible_prefix {sync : Bool} (a b : List Ev) (h : admissible A Q sync fetched pre (a ++ b) = true) :
    admissible A Q sync fetched pre a = true := by
  rw [admissible_append, Bool.and_eq_true] at h
  exact h.1

/-- **Finished implies captured.** In every admissible log (synchronous WARC writing), when the queue row of a seed is
deleted — or the seed is reported finished — every exchange fetched for it was written to the WARC earlier in the log. -/
theorem finished_implies_captured (hok : okOrder A Q = true) {a b : List Ev} {s : Nat} {e : Ev} (he : e = .deleted s ∨ e = .notify s)
    (h : admissible A Q true fetched [] (a ++ e :: b) = true) : ∀ u ∈ fetched s, Ev.written u ∈ a := by
  -- the log up to `e` is closed, and `e` passed its guard on it
  simp only [admissible_append, admissible, Bool.and_eq_true, List.nil_append] at h
  have hc : Closed fetched a := closed_run hok (pre := []) nofun h.1
  have hn : Req fetched a (.notify s) := by
    rcases he with rfl | rfl
    · exact hc _ (guard_req hok h.2.1)
    · exact guard_req hok h.2.1
  exact fun u hu => (hn u hu).elim (hc _) (hc _)

end

/-! ### the retry loop -/

/-- `for retry := 0; retry <= MaxRetry; retry++` runs its body `MaxRetry + 1` times -/
theorem attempts_le (A : AF) (h : A.retryLoopOp = .le) (maxRetry : Nat) : attempts A maxRetry = maxRetry + 1 := by
  -- of `0, …, maxRetry + 1` the test drops the last (first bullet) and keeps the others (second)
  rw [attempts, h, List.range_succ, List.filter_append, List.filter_eq_self.2, List.filter_eq_nil_iff.2, List.append_nil,
    List.length_range]
  · simp [Cmp.eval]
  · exact fun a ha => decide_eq_true (Nat.le_of_lt_succ (List.mem_range.1 ha))

/-- one turn whose header test passes: either the inner test passes and the turn is a retry (one fuel less, `r + 1`, `n + 1`),
or the visit ends here with exactly one more request and not by falling through -/
theorem visitFrom_step (A : AF) (maxRetry : Nat) (site : Nat → Attempt) (fuel r n : Nat)
    (hc : A.retryLoopOp.eval r maxRetry = true) :
    (A.retryInnerOp.eval r maxRetry = true ∧
      visitFrom A maxRetry site (fuel + 1) r n = visitFrom A maxRetry site fuel (r + 1) (n + 1)) ∨
    ((visitFrom A maxRetry site (fuel + 1) r n).1 = n + 1 ∧ (visitFrom A maxRetry site (fuel + 1) r n).2 ≠ .fellThrough) := by
  simp only [visitFrom, hc, Bool.not_true, Bool.false_eq_true, if_false]
  cases site n with
  | netErr =>
    cases hi : A.retryInnerOp.eval r maxRetry
    · exact .inr (by simp)
    · exact .inl (by simp)
  | resp st ch =>
    cases hr : retried A st ch
    · exact .inr (by simp [hr])
    · cases hi : A.retryInnerOp.eval r maxRetry
      · exact .inr (by simp [hr])
      · exact .inl (by simp [hr])

/-- the loop invariant: requests sent = retry counter -/
theorem visitFrom_bound (A : AF) (h1 : A.retryLoopOp = .le) (maxRetry : Nat) (site : Nat → Attempt) (fuel r : Nat) (hr : r ≤ maxRetry + 1) :
    (visitFrom A maxRetry site fuel r r).1 ≤ maxRetry + 1 := by
  induction fuel generalizing r with
  | zero => exact hr
  | succ f ih =>
    by_cases hc : A.retryLoopOp.eval r maxRetry = true
    · have hle : r ≤ maxRetry := of_decide_eq_true (h1 ▸ hc :)
      rcases visitFrom_step A maxRetry site f r r hc with ⟨-, h⟩ | ⟨h, -⟩
      · rw [h]; exact ih (r + 1) (Nat.succ_le_succ hle)
      · rw [h]; exact Nat.succ_le_succ hle
    · rw [visitFrom, if_pos (by simpa using hc)]; exact hr

/-- **at most max-retry + 1 requests per visit**, whatever the site answers -/
theorem visit_bound (A : AF) (h1 : A.retryLoopOp = .le) (maxRetry : Nat) (site : Nat → Attempt) :
    (visit A maxRetry site).1 ≤ maxRetry + 1 := by
  fun_cases visit A maxRetry site
  · exact visitFrom_bound A h1 maxRetry site _ 0 (Nat.zero_le _)
  · exact Nat.zero_le _

/-- with the guards `retry <= MaxRetry` / `retry < MaxRetry` the loop never ends by its own condition: a visit ends with
the node Failed or with a kept response -/
theorem visitFrom_ends (A : AF) (h1 : A.retryLoopOp = .le) (h2 : A.retryInnerOp = .lt) (maxRetry : Nat) (site : Nat → Attempt)
    (fuel r n : Nat) (hr : r ≤ maxRetry) (hf : maxRetry + 1 ≤ fuel + r) :
    (visitFrom A maxRetry site fuel r n).2 ≠ .fellThrough := by
  induction fuel generalizing r n with
  | zero => exact absurd (Nat.zero_add r ▸ hf) (Nat.not_lt_of_le hr)
  | succ f ih =>
    rcases visitFrom_step A maxRetry site f r n (by rw [h1]; exact decide_eq_true hr) with ⟨hi, h⟩ | ⟨-, h⟩
    · have hlt : r < maxRetry := of_decide_eq_true (h2 ▸ hi :)
      rw [h]; exact ih (r + 1) (n + 1) hlt (Nat.add_right_comm f 1 r ▸ hf)
    · exact h

end Zeno.Model.Warc
