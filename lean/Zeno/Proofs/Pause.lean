import Zeno.Model.Pause
import Zeno.Proofs.ListIdx
/-!
The invariant of the pause protocol and what it gives where nothing internal can happen. `Inv` is read subscriber by
subscriber (`Pt`), so that an action answers for the one subscriber it touches (`Step.inv`).
-/
namespace Zeno.Model.Pause

def okShapes (F : Facts) : Bool :=
  F.subscribeSerialised && F.subscribeSignalsWhenPaused &&
  F.pauseChBuffered1 && F.resumeChUnbuffered && F.unsubscribeDeletesThenCloses && F.pauseCasFalseTrueFirst &&
  F.pauseSendNonBlocking && F.resumeCollectsThenClears && F.resumeHandlesClosed &&
  F.preprocessorSubscribesAndDefersUnsubscribe && F.archiverSubscribesAndDefersUnsubscribe &&
  F.postprocessorSubscribesAndDefersUnsubscribe && F.finisherSubscribesAndDefersUnsubscribe &&
  -- a running worker can take its pause signal whenever it is not busy with a seed: the select in which it waits for work
  -- has the pause case (`takeToken` is enabled for every running worker that holds a signal)
  F.preprocessorListensWhileIdle && F.archiverListensWhileIdle && F.postprocessorListensWhileIdle && F.finisherListensWhileIdle

/-- the proofs use `guarded` and `ackCancellable` only; `okShapes` pins the shapes of pause.go and of the workers that the model
assumes -/
def ok (F : Facts) : Bool := okShapes F && guarded F && ackCancellable F

theorem ok_guarded {F : Facts} (h : ok F = true) : guarded F = true := by
  simp only [ok, Bool.and_eq_true] at h; exact h.1.2
theorem ok_ack {F : Facts} (h : ok F = true) : ackCancellable F = true := by
  simp only [ok, Bool.and_eq_true] at h; exact h.2

/-- subscriber `i` still has something to do with the current pause: a signal is on its way, in its
channel, or it is acknowledging -/
def busy (s : S) (i : Nat) : Prop :=
  i ∈ s.pauses.flatten ∨ (s.sub i).token = true ∨ (s.sub i).st = .acking

theorem flatten_dropEmpty (l : List (List Nat)) : (dropEmpty l).flatten = l.flatten :=
  List.flatten_filter_not_isEmpty

theorem flatten_dropEmpty_concat (l : List (List Nat)) (w : List Nat) : (dropEmpty (l ++ [w])).flatten = l.flatten ++ w := by
  rw [flatten_dropEmpty, List.flatten_concat]

theorem dropEmpty_noempty {l : List (List Nat)} : ∀ p ∈ dropEmpty l, p ≠ [] :=
  fun p hp => by simpa using (List.mem_filter.mp hp).2

theorem flatten_set_perm {L : List (List Nat)} {k a : Nat} {w w' : List Nat} (hk : L[k]? = some w)
    (hw : w.Perm (a :: w')) : L.flatten.Perm (a :: (L.set k w').flatten) :=
  (List.perm_cons_eraseIdx hk).flatten.trans <|
    ((hw.append_right _).trans (.cons a (List.set_perm_cons_eraseIdx w' hk).flatten.symm) :)

theorem live_iff {s : S} {i : Nat} : s.live i = true ↔ (s.sub i).st ≠ .exited := by
  simp [S.live, Sub.live]

theorem live_of_st {s : S} {i : Nat} {w : W} (h : (s.sub i).st = w) (hw : w ≠ .exited) : s.live i = true :=
  live_iff.mpr (h ▸ hw)

theorem live_lt {s : S} {i : Nat} (h : s.live i = true) : i < s.n :=
  Decidable.byContradiction fun hi => by simp [S.live, S.sub, Sub.live, hi] at h

theorem mem_liveIdx {s : S} {i : Nat} : i ∈ s.liveIdx ↔ s.live i = true := by
  simp only [S.liveIdx, List.mem_filter, List.mem_range]
  exact and_iff_right_of_imp live_lt

theorem liveIdx_nodup (s : S) : s.liveIdx.Nodup :=
  (List.nodup_range).sublist List.filter_sublist

theorem sub_setSub_self {s : S} {i : Nat} (hi : i < s.n) {u : Sub} : (s.setSub i u).sub i = u := by
  simp [S.setSub, S.sub, hi]

theorem sub_setSub_ne (s : S) (i j : Nat) (u : Sub) (hj : j ≠ i) : (s.setSub i u).sub j = s.sub j := by
  unfold S.setSub S.sub
  simp [hj]

theorem sub_succ (s : S) {j : Nat} (hj : j ≠ s.n) : ({ s with n := s.n + 1 } : S).sub j = s.sub j := by
  simp [S.sub, Nat.lt_succ_iff, Nat.le_iff_lt_or_eq, hj]

@[simp] theorem live_withResumes (t : S) (r : List (List Nat)) : ({ t with resumes := r } : S).live = t.live := rfl
@[simp] theorem sub_withResumes (t : S) (r : List (List Nat)) : ({ t with resumes := r } : S).sub = t.sub := rfl
@[simp] theorem busy_withResumes (t : S) (r : List (List Nat)) (j : Nat) : busy ({ t with resumes := r } : S) j = busy t j := rfl
@[simp] theorem live_withPauses (t : S) (r : List (List Nat)) : ({ t with pauses := r } : S).live = t.live := rfl
@[simp] theorem sub_withPauses (t : S) (r : List (List Nat)) : ({ t with pauses := r } : S).sub = t.sub := rfl

/-- one constructor per way an action can succeed, with the guards the proofs need (`step_sound`; `resumeQueue` and `subscribe` do
not record all of theirs) -/
inductive Step (F : Facts) (s : S) : Act → S → Prop
  | pauseNoop (hp : s.paused = true) : Step F s .pauseCall s
  | pause (hp : s.paused = false) :
      Step F s .pauseCall { s with paused := true, pauses := dropEmpty (s.pauses ++ [s.liveIdx]) }
  | resumeQueue : Step F s .resumeCall { s with waiting := s.waiting + 1 }
  | resumeStart (hr : guarded F = true → s.resumes = []) : Step F s .resumeCall (startResume F s)
  | stop : Step F s .stopCall { s with stop := true }
  | subscribe (hg : guarded F = true) (hr : s.resumes = []) :
      Step F s .subscribe ({ s with n := s.n + 1 }.setSub s.n { st := .running, token := s.paused })
  | sendLive {k i rest} (hk : s.pauses[k]? = some (i :: rest)) (hl : s.live i = true) :
      Step F s (.pauseSend k)
        ({ s with pauses := dropEmpty (s.pauses.set k rest) }.setSub i { s.sub i with token := true })
  | sendDead {k i rest} (hk : s.pauses[k]? = some (i :: rest)) (hl : s.live i = false) :
      Step F s (.pauseSend k) { s with pauses := dropEmpty (s.pauses.set k rest) }
  | recvAck {k i w} (hk : s.resumes[k]? = some w) (hi : i ∈ w) (hst : (s.sub i).st = .acking) :
      Step F s (.resumeRecv k i)
        ({ s with resumes := s.resumes.set k (w.erase i) }.setSub i { s.sub i with st := .running })
  | recvClosed {k i w} (hk : s.resumes[k]? = some w) (hi : i ∈ w) (hst : (s.sub i).st = .exited) :
      Step F s (.resumeRecv k i) { s with resumes := s.resumes.set k (w.erase i) }
  | finish {k} (hk : s.resumes[k]? = some []) :
      Step F s (.resumeFinish k) { s with resumes := s.resumes.eraseIdx k, paused := false }
  | proceed (hg : guarded F = true) (hr : s.resumes = []) (hw : 0 < s.waiting) :
      Step F s .waiterProceed (startResume F { s with waiting := s.waiting - 1 })
  | take {i} (hst : (s.sub i).st = .running) (ht : (s.sub i).token = true) :
      Step F s (.takeToken i) (s.setSub i { st := .acking, token := false })
  | exit {i} (hstop : s.stop = true) (hi : i < s.n)
      (hst : (s.sub i).st = .running ∨ (s.sub i).st = .acking ∧ ackCancellable F = true) :
      Step F s (.exit i) (s.setSub i { st := .exited, token := false })

theorem step_sound {F : Facts} {s s' : S} {a : Act} (hs : step F s a = some s') : Step F s a s' := by
  revert hs
  -- the branches of `step` with their conditions; `cases hs` closes those that yield `none` and substitutes `s'` in the others
  fun_cases step F s a <;> intro hs <;> cases hs
  · next h => exact .pauseNoop h
  · next h => exact .pause ((Bool.not_eq_true _).mp h)
  · exact .resumeQueue
  · next h => exact .resumeStart (by simpa using h)
  · exact .stop
  · next hg hr =>
    rw [Bool.and_eq_true] at hg
    exact .subscribe hg.2 (List.isEmpty_iff.mp hr)
  · next k i rest hk u t =>
    by_cases hl : (s.sub i).live = true <;> simp only [t, u, hl, ↓reduceIte]
    · exact .sendLive hk hl
    · exact .sendDead hk ((Bool.not_eq_true _).mp hl)
  · next hk hi _ hst => exact .recvAck hk hi (beq_iff_eq.mp hst)
  · next hk hi _ _ hst => exact .recvClosed hk hi (beq_iff_eq.mp hst)
  · next hk => exact .finish hk
  · next h =>
    simp only [Bool.and_eq_true, List.isEmpty_iff, decide_eq_true_eq] at h
    exact .proceed h.1.1 h.1.2 h.2
  · next h =>
    simp only [Bool.and_eq_true, beq_iff_eq] at h
    exact .take h.1 h.2
  · next h =>
    simp only [Bool.and_eq_true, Bool.or_eq_true, beq_iff_eq, decide_eq_true_eq] at h
    exact .exit h.1.1 h.1.2 h.2

theorem startResume_cases (F : Facts) (s : S) :
    startResume F s = s ∨
    (guarded F = true → s.paused = true) ∧ startResume F s = { s with resumes := s.resumes ++ [s.liveIdx] } := by
  fun_cases startResume F s
  · exact .inl rfl
  · next h => exact .inr ⟨fun hg => by simpa [hg] using h, rfl⟩

/-! ### One subscriber -/

/-- subscriber `i` has yet to acknowledge the pause in force -/
def owes (s : S) (i : Nat) : Prop := s.paused = true ∧ ∀ w ∈ s.resumes, i ∈ w

/-- what `Inv` says of one subscriber `u`, given `fl`: a pause still has a signal to send it, and `o`: it owes an
acknowledgement. A live one is in at most one of the three `busy` conditions, and in one exactly when it owes. -/
def Pt (fl o : Prop) (u : Sub) : Prop :=
  u.live = true → (fl → u.token = false ∧ u.st ≠ .acking) ∧ (u.token = true → u.st ≠ .acking) ∧
    ((fl ∨ u.token = true ∨ u.st = .acking) ↔ o)

section
variable {fl fl' o o' : Prop} {u : Sub}

theorem Pt.congr (h : Pt fl o u) (hf : fl' ↔ fl) (ho : u.live = true → (o' ↔ o)) : Pt fl' o' u :=
  fun hl => by rw [hf, ho hl]; exact h hl

theorem Pt.dead (h : u.live = false) : Pt fl o u :=
  fun hl => nomatch h.symm.trans hl

theorem Pt.idle (h : Pt fl o u) (ho : ¬o) (hl : u.live = true) : u.st = .running ∧ u.token = false := by
  have hn := mt (h hl).2.2.mp ho
  refine ⟨?_, Bool.eq_false_iff.mpr fun t => hn (.inr (.inl t))⟩
  cases hst : u.st with
  | running => rfl
  | acking => exact (hn (.inr (.inr hst))).elim
  | exited => simp [Sub.live, hst] at hl

theorem Pt.pause (h : Pt fl o u) (ho : ¬o) (hf' : u.live = true → fl') (ho' : o') : Pt fl' o' u := fun hl =>
  have ⟨hst, ht⟩ := h.idle ho hl
  ⟨fun _ => ⟨ht, by simp [hst]⟩, by simp [ht], iff_of_true (.inl (hf' hl)) ho'⟩

theorem Pt.signal (h : Pt fl o u) (hf : fl) : Pt False o { u with token := true } :=
  fun hl =>
    have ⟨h1, _, h3⟩ := h hl
    ⟨nofun, fun _ => (h1 hf).2, iff_of_true (.inr (.inl rfl)) (h3.mp (.inl hf))⟩

theorem Pt.take (h : Pt fl o u) (hst : u.st = .running) (ht : u.token = true) :
    Pt fl o { st := .acking, token := false } := by
  simpa [Pt, Sub.live, hst, ht] using h

theorem Pt.acked (h : Pt fl o u) (hst : u.st = .acking) : Pt fl False { u with st := .running } := by
  have ⟨h1, h2, _⟩ : ¬fl ∧ u.token = false ∧ o := by simpa [Pt, Sub.live, hst] using h
  simp [Pt, h1, h2]

end

/-! ### The invariant, and how it passes to a state that differs in one subscriber -/

/-- `nodup`, `noempty`: the signals still to be sent, per `Pause`, as non-empty lists without repetition. `excl`: a live subscriber is in
at most one of the three `busy` conditions. `res`: at most one `Resume` collects. `unp`, `p0`, `p1`: who is busy — nobody when not
paused, everybody when paused and no `Resume` collects, exactly those the `Resume` still waits for otherwise. -/
structure Inv (s : S) : Prop where
  nodup : s.pauses.flatten.Nodup
  noempty : ∀ p ∈ s.pauses, p ≠ []
  excl : ∀ i, s.live i = true →
    (i ∈ s.pauses.flatten → (s.sub i).token = false ∧ (s.sub i).st ≠ .acking) ∧
    ((s.sub i).token = true → (s.sub i).st ≠ .acking)
  unp : s.paused = false → s.resumes = [] ∧ ∀ i, s.live i = true → ¬ busy s i
  res : s.resumes = [] ∨ ∃ w, s.resumes = [w] ∧ w.Nodup
  p0 : s.paused = true → s.resumes = [] → ∀ i, s.live i = true → busy s i
  p1 : s.paused = true → ∀ w, s.resumes = [w] → ∀ i, s.live i = true → (i ∈ w ↔ busy s i)

/-- every subscriber a pause still has to signal is registered; needed for `subscribe`: the new index is in no pause -/
def Bnd (s : S) : Prop := ∀ i ∈ s.pauses.flatten, i < s.n

theorem Inv.pt {s : S} (h : Inv s) (i : Nat) : Pt (i ∈ s.pauses.flatten) (owes s i) (s.sub i) := by
  intro hl
  refine ⟨(h.excl i hl).1, (h.excl i hl).2, ?_⟩
  show busy s i ↔ owes s i
  cases hp : s.paused with
  | false => simpa [owes, hp] using (h.unp hp).2 i hl
  | true =>
    rcases h.res with hr | ⟨w, hr, _⟩
    · simpa [owes, hp, hr] using h.p0 hp hr i hl
    · simpa [owes, hp, hr] using (h.p1 hp w hr i hl).symm

theorem Inv.of_pt {s : S} (hnd : s.pauses.flatten.Nodup) (hne : ∀ p ∈ s.pauses, p ≠ [])
    (hu : s.paused = false → s.resumes = []) (hres : s.resumes = [] ∨ ∃ w, s.resumes = [w] ∧ w.Nodup)
    (h : ∀ i, Pt (i ∈ s.pauses.flatten) (owes s i) (s.sub i)) : Inv s := by
  have hb : ∀ i, s.live i = true → (busy s i ↔ owes s i) := fun i hl => (h i hl).2.2
  refine ⟨hnd, hne, fun i hl => ⟨(h i hl).1, (h i hl).2.1⟩, fun hp => ⟨hu hp, fun i hl => ?_⟩, hres,
    fun hp hr i hl => ?_, fun hp w hr i hl => ?_⟩
  · simp [hb i hl, owes, hp]
  · simp [hb i hl, owes, hp, hr]
  · simp [hb i hl, owes, hp, hr]

theorem inv_init (n : Nat) : Inv (S.init n) := by
  refine .of_pt .nil nofun (fun _ => rfl) (.inl rfl) fun i => ?_
  unfold Pt S.sub S.init
  by_cases hi : i < n <;> simp [hi, owes]

theorem Inv.resumes_eq {s : S} (h : Inv s) {k : Nat} {w : List Nat} (hk : s.resumes[k]? = some w) :
    k = 0 ∧ s.resumes = [w] ∧ w.Nodup ∧ s.paused = true := by
  rcases h.res with hr | ⟨w0, hr, hnd⟩ <;> rw [hr] at hk
  · cases hk
  · obtain ⟨rfl, rfl⟩ : k = 0 ∧ w0 = w := by simpa [List.getElem?_singleton] using hk
    exact ⟨rfl, hr, hnd, (Bool.not_eq_false _).mp fun hf => by simp [(h.unp hf).1] at hr⟩

theorem inv_startResume {F : Facts} (hg : guarded F = true) {s : S} (h : Inv s) (hr : s.resumes = []) :
    Inv (startResume F s) := by
  rcases startResume_cases F s with e | ⟨hp, e⟩ <;> rw [e]
  · exact h
  · refine .of_pt h.nodup h.noempty (fun hf => by simp [hp hg] at hf) (.inr ⟨_, by simp [hr], liveIdx_nodup s⟩)
      fun i => (h.pt i).congr .rfl fun hl => ?_
    simp [owes, hr, mem_liveIdx, show s.live i = true from hl]

/-- `t` differs from `s` in subscriber `i` only. `t` is a variable because the actions build it in different ways
(`s.setSub i u`, the same after a field update, the field update alone); `e1 e2 e3` are `rfl` at every use. -/
theorem Inv.of_sub {s t : S} (h : Inv s) (e1 : t.pauses = s.pauses) (e2 : t.paused = s.paused)
    (e3 : t.resumes = s.resumes) {i : Nat} (hsub : ∀ j, j ≠ i → t.sub j = s.sub j)
    (hi : Pt (i ∈ s.pauses.flatten) (owes s i) (t.sub i)) : Inv t :=
  .of_pt (e1 ▸ h.nodup) (e1 ▸ h.noempty) (by rw [e2, e3]; exact fun hp => (h.unp hp).1) (e3 ▸ h.res) fun j => by
    unfold owes
    rw [e1, e2, e3]
    by_cases hj : j = i
    · exact hj ▸ hi
    · exact hsub j hj ▸ h.pt j

/-- as `Inv.of_sub`, and `i` was taken off pause `k` -/
theorem Inv.send {s t : S} (h : Inv s) {k i : Nat} {rest : List Nat} (hk : s.pauses[k]? = some (i :: rest))
    (e1 : t.pauses = dropEmpty (s.pauses.set k rest)) (e2 : t.paused = s.paused) (e3 : t.resumes = s.resumes)
    (hsub : ∀ j, j ≠ i → t.sub j = s.sub j) (hi : i ∈ s.pauses.flatten → Pt False (owes s i) (t.sub i)) : Inv t := by
  have hperm := flatten_set_perm hk (.refl _)
  have hnd := List.nodup_cons.mp (hperm.nodup_iff.mp h.nodup)
  refine .of_pt ?_ (e1 ▸ dropEmpty_noempty) (by rw [e2, e3]; exact fun hp => (h.unp hp).1) (e3 ▸ h.res) fun j => ?_
  · rw [e1, flatten_dropEmpty]; exact hnd.2
  · unfold owes
    rw [e1, e2, e3, flatten_dropEmpty]
    by_cases hj : j = i
    · exact hj ▸ (hi (hperm.mem_iff.mpr List.mem_cons_self)).congr (iff_false_intro hnd.1) fun _ => .rfl
    · exact hsub j hj ▸ (h.pt j).congr (by simp [hperm.mem_iff, hj]) fun _ => .rfl

/-- as `Inv.of_sub`, and `i` was taken off resume `k` -/
theorem Inv.recv {s t : S} (h : Inv s) {k i : Nat} {w : List Nat} (hk : s.resumes[k]? = some w)
    (e1 : t.pauses = s.pauses) (e2 : t.paused = s.paused) (e3 : t.resumes = s.resumes.set k (w.erase i))
    (hsub : ∀ j, j ≠ i → t.sub j = s.sub j) (hi : Pt (i ∈ s.pauses.flatten) False (t.sub i)) : Inv t := by
  obtain ⟨rfl, hr, hnd, hp⟩ := h.resumes_eq hk
  rw [hr] at e3
  have ho : ∀ j, owes t j ↔ j ≠ i ∧ owes s j := fun j => by simp [owes, e2, e3, hr, hp, hnd.mem_erase_iff]
  refine .of_pt (e1 ▸ h.nodup) (e1 ▸ h.noempty) (fun hf => nomatch hp.symm.trans (e2.symm.trans hf))
    (.inr ⟨_, e3, hnd.erase i⟩) fun j => ?_
  rw [e1]
  by_cases hj : j = i
  · exact hj ▸ hi.congr .rfl fun _ => iff_false_intro fun ho' => ((ho i).mp ho').1 rfl
  · exact hsub j hj ▸ (h.pt j).congr .rfl fun _ => (ho j).trans (and_iff_right hj)

/-! ### Every action keeps it -/

theorem Step.inv {F : Facts} {s s' : S} {a : Act} (hst : Step F s a s') (h : Inv s) (hb : Bnd s)
    (hg : guarded F = true) : Inv s' := by
  cases hst with
  | pauseNoop _ => exact h
  | resumeQueue | stop => exact { h with }
  | resumeStart hr => exact inv_startResume hg h (hr hg)
  | proceed _ hr _ => exact inv_startResume hg { h with } hr
  | pause hp =>
    obtain ⟨hr, hcl⟩ := h.unp hp
    have hfl := flatten_dropEmpty_concat s.pauses s.liveIdx
    refine .of_pt ?_ dropEmpty_noempty nofun (.inl hr) fun i => ?_
    · rw [hfl]
      exact List.nodup_append.mpr ⟨h.nodup, liveIdx_nodup s,
        fun a ha b hl hab => hcl b (mem_liveIdx.mp hl) (.inl (hab ▸ ha))⟩
    · exact (h.pt i).pause (fun ho => nomatch hp.symm.trans ho.1)
        (fun hl => hfl ▸ List.mem_append_right _ (mem_liveIdx.mpr hl)) ⟨rfl, by simp [hr]⟩
  | subscribe _ hr =>
    have hnf : s.n ∉ s.pauses.flatten := fun hm => Nat.lt_irrefl _ (hb _ hm)
    exact h.of_sub rfl rfl rfl (fun j hj => (sub_setSub_ne _ _ j _ hj).trans (sub_succ s hj))
      (sub_setSub_self (s := { s with n := s.n + 1 }) (Nat.lt_succ_self s.n) ▸ fun _ => by simp [hnf, owes, hr])
  | @sendLive k i rest hk hl =>
    exact h.send hk rfl rfl rfl (sub_setSub_ne _ i · _)
      fun hm => sub_setSub_self (live_lt hl) ▸ (h.pt i).signal hm
  | sendDead hk hl => exact h.send hk rfl rfl rfl (fun _ _ => rfl) fun _ => .dead hl
  | @recvAck k i w hk hi hst =>
    have hl := live_of_st hst nofun
    exact h.recv hk rfl rfl rfl (sub_setSub_ne _ i · _)
      (sub_setSub_self (live_lt hl) ▸ (h.pt i).acked hst)
  | recvClosed hk hi hst => exact h.recv hk rfl rfl rfl (fun _ _ => rfl) (.dead (by simp [Sub.live, hst]))
  | finish hk =>
    obtain ⟨rfl, hr, _, _⟩ := h.resumes_eq hk
    have he : s.resumes.eraseIdx 0 = [] := by rw [hr, List.eraseIdx_cons_zero]
    exact .of_pt h.nodup h.noempty (fun _ => he) (.inl he) fun j => (h.pt j).congr .rfl fun _ => by simp [owes, hr]
  | @take i hst ht =>
    have hl := live_of_st hst nofun
    exact h.of_sub rfl rfl rfl (sub_setSub_ne s i · _)
      (sub_setSub_self (live_lt hl) ▸ (h.pt i).take hst ht)
  | @exit i _ hi _ =>
    exact h.of_sub rfl rfl rfl (sub_setSub_ne s i · _) (sub_setSub_self hi ▸ .dead rfl)

theorem Step.bnd {F : Facts} {s s' : S} {a : Act} (hst : Step F s a s') (h : Bnd s) : Bnd s' := by
  have send : ∀ {k i rest}, s.pauses[k]? = some (i :: rest) →
      ∀ j ∈ (dropEmpty (s.pauses.set k rest)).flatten, j < s.n := fun hk j hj =>
    h j ((flatten_set_perm hk (.refl _)).mem_iff.mpr (List.mem_cons_of_mem _ (flatten_dropEmpty _ ▸ hj)))
  cases hst with
  | pause _ =>
    intro i hi
    rw [flatten_dropEmpty_concat, List.mem_append] at hi
    exact hi.elim (h i) fun hi => live_lt (mem_liveIdx.mp hi)
  | subscribe _ _ => exact fun i hi => Nat.lt_succ_of_lt (h i hi)
  | sendLive hk _ | sendDead hk _ => exact send hk
  | resumeStart _ | proceed _ _ _ => fun_cases startResume <;> exact h
  | _ => exact h

theorem bnd_init (n : Nat) : Bnd (S.init n) := nofun

theorem inv_subscribe (F : Facts) (s s' : S) (h : Inv s) (hb : Bnd s) (hs : step F s .subscribe = some s') : Inv s' := by
  cases step_sound hs with
  | subscribe hg hr => exact (Step.subscribe hg hr).inv h hb hg

/-- reachable from `n` registered subscribers; further workers may subscribe on the way -/
inductive Reachable (F : Facts) (n : Nat) : S → Prop
  | init : Reachable F n (S.init n)
  | step (s s' : S) (a : Act) : Reachable F n s → step F s a = some s' → Reachable F n s'

theorem reachable_inv_bnd {F : Facts} (hg : guarded F = true) {n : Nat} {s : S} (h : Reachable F n s) : Inv s ∧ Bnd s := by
  induction h with
  | init => exact ⟨inv_init n, bnd_init n⟩
  | step _ _ _ _ hs ih => exact ⟨(step_sound hs).inv ih.1 ih.2 hg, (step_sound hs).bnd ih.2⟩

theorem reachable_inv {F : Facts} (hg : guarded F = true) {n : Nat} {s : S} (h : Reachable F n s) : Inv s :=
  (reachable_inv_bnd hg h).1

/-! ### What it gives -/

/-- the model's `quiescent` (a `Bool`, which the counterexamples of `Props/C14` evaluate) asks this of `candidates s` only: all
of them internal, so `Quiescent F s → quiescent F s = true`; the converse is the completeness of `candidates` -/
def Quiescent (F : Facts) (s : S) : Prop := ∀ a, a.internal = true → step F s a = none

/-- **No deadlock.** Where the invariant holds and nothing more can happen by itself, every `Pause` and `Resume` that
was invoked has returned, a worker waits for resume only while the manager is paused, and after a stop request every
worker has exited. -/
theorem quiescent_facts {F : Facts} (hg : guarded F = true) (hack : ackCancellable F = true) {s : S}
    (h : Inv s) (hq : Quiescent F s) :
    s.pauses = [] ∧ s.resumes = [] ∧ s.waiting = 0 ∧
    (∀ i, (s.sub i).st = .acking → s.paused = true) ∧
    (s.stop = true → ∀ i, i < s.n → (s.sub i).st = .exited) := by
  have hp : s.pauses = [] := by
    match hps : s.pauses with
    | [] => rfl
    | [] :: _ => exact absurd rfl (h.noempty [] (by simp [hps]))
    | (i :: rest) :: _ => simpa [step, hps] using hq (.pauseSend 0) rfl
  have hr : s.resumes = [] := by
    refine h.res.resolve_right fun ⟨w, hr, _⟩ => ?_
    cases w with
    | nil => simpa [step, hr] using hq (.resumeFinish 0) rfl
    | cons i rest =>
      -- the Resume cannot receive from `i`, so `i` runs; it owes, so it is busy; nothing is in flight and it is not
      -- acknowledging, so it holds a token and could take it
      have hrecv := hq (.resumeRecv 0 i) rfl
      simp [step, hr] at hrecv
      have hrun : (s.sub i).st = .running := by
        cases hst : (s.sub i).st <;> simp [hst] at hrecv ⊢
      have ho : owes s i := ⟨(h.resumes_eq (k := 0) (by rw [hr]; rfl)).2.2.2, by simp [hr]⟩
      rcases (h.pt i (live_of_st hrun nofun)).2.2.mpr ho with hb | hb | hb
      · simp [hp] at hb
      · simpa [step, hrun, hb] using hq (.takeToken i) rfl
      · simp [hrun] at hb
  have hw : s.waiting = 0 := Nat.eq_zero_of_not_pos fun hpos => by
    simpa [step, hg, hr, hpos] using hq .waiterProceed rfl
  refine ⟨hp, hr, hw, fun i hacki => ?_, fun hstop i hi => ?_⟩
  · exact ((h.pt i (live_of_st hacki nofun)).2.2.mp (.inr (.inr hacki))).1
  · have := hq (.exit i) rfl
    simp [step, hstop, hi, hack] at this
    cases hst : (s.sub i).st <;> simp [hst] at this ⊢

/-- **Resume wakes all.** When a `Resume` that found the pipeline paused returns, every live
subscriber runs and none has a pause signal pending. -/
theorem resume_wakes_all {F : Facts} {s s' : S} {k : Nat} (h : Inv s) (hs : step F s (.resumeFinish k) = some s') :
    s'.paused = false ∧ ∀ i, s'.live i = true → (s'.sub i).st = .running ∧ (s'.sub i).token = false := by
  cases step_sound hs with
  | finish hk =>
    obtain ⟨_, hr, _, _⟩ := h.resumes_eq hk
    exact ⟨rfl, fun i hl => (h.pt i).idle (fun ho => by simp [owes, hr] at ho) hl⟩

theorem resume_unpaused_noop {F : Facts} (hg : guarded F = true) {s : S} (hp : s.paused = false) (hr : s.resumes = []) :
    step F s .resumeCall = some s := by
  simp [step, hg, hr, startResume, hp]

theorem pause_paused_noop (F : Facts) {s : S} (hp : s.paused = true) : step F s .pauseCall = some s := by
  simp [step, hp]

end Zeno.Model.Pause
