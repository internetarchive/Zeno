import Zeno.Proofs.Item
/-!
`CheckConsistency` is preserved: under pruning and completion marking (so under `dedupe` and `completeAndCheck`), and under
every `GoodRewrite` of one node (`setStatus` on a leaf, `AddChild`, `RemoveChild`).
-/
namespace Zeno.Model.Item

theorem Forest.length_prune_le (rm : List String) (f : Forest) : (f.prune rm).length ≤ f.length := by
  cases f with
  | nil => exact Nat.le_refl _
  | cons t f =>
    rw [Forest.prune_cons]
    split
    · exact Nat.succ_le_succ (Forest.length_prune_le rm f)
    · exact Nat.le_succ_of_le (Forest.length_prune_le rm f)

theorem Forest.length_mark (F : Facts) (f : Forest) : (f.mark F).length = f.length := by
  cases f with
  | nil => rfl
  | cons t f => exact congrArg (· + 1) (Forest.length_mark F f)

theorem ite_some_none {α} (c : Bool) (a : α) (x : Option α) :
    (if c = true then some a else x) = none ↔ c = false ∧ x = none := by
  cases c <;> simp

theorem checkNode_none_iff (F : Facts) (p : Option Status) (i : Info) (n : Nat) :
    checkNode F p i n = none ↔
      (c1 p i = false ∧ c2 i n = false ∧ c3 F p i = false ∧ c4 i n = false ∧ c5 F i n = false) := by
  simp only [checkNode, ite_some_none, and_true]

theorem Tree.check_node (F : Facts) (p : Option Status) (i : Info) (k : Forest) :
    (Tree.node i k).check F p = none ↔ checkNode F p i k.length = none ∧ k.check F i.st = none := by
  rw [Tree.check]
  cases checkNode F p i k.length <;> simp

theorem Forest.check_cons (F : Facts) (p : Status) (t : Tree) (f : Forest) :
    (Forest.cons t f).check F p = none ↔ t.check F (some p) = none ∧ f.check F p = none := by
  rw [Forest.check]
  cases t.check F (some p) <;> simp

theorem checkNode_mono {F : Facts} {p : Option Status} {i : Info} {n m : Nat} (hle : m ≤ n)
    (h : checkNode F p i n = none) : checkNode F p i m = none := by
  rw [checkNode_none_iff] at h ⊢
  obtain ⟨h1, h2, h3, h4, h5⟩ := h
  simp only [c2, c4, c5, Bool.and_eq_false_iff, decide_eq_false_iff_not] at h2 h4 h5 ⊢
  -- each rule that counts children asks for more than some number of them
  have mono {a : Nat} (h : ¬n > a) : ¬m > a := fun hm => h (Nat.lt_of_lt_of_le hm hle)
  exact ⟨h1, h2.imp_right mono, h3, h4.imp_left mono, h5.imp_left mono⟩

/-- from the old label only `via` (rule 1) survives; rules 2, 3 need not-Fresh, rules 4, 5 are `hn` -/
theorem checkNode_notFresh (F : Facts) (p : Option Status) (i i' : Info) (m n : Nat) (hv : i'.via = i.via)
    (hs : i'.st ≠ .fresh)
    (hn : n = 0 ∨ (F.withChildrenStatuses.contains i'.st.name = true ∧ (i'.st = .gotRedirected → n ≤ 1)))
    (h : checkNode F p i m = none) : checkNode F p i' n = none := by
  rw [checkNode_none_iff] at h ⊢
  refine ⟨by simpa [c1, hv] using h.1, by simp [c2, hs], by simp [c3, hs], ?_, ?_⟩
  · simp only [c4, Bool.and_eq_false_imp, decide_eq_true_eq, beq_eq_false_iff_ne]
    exact fun h1 e => hn.elim (fun h0 => Nat.not_lt_zero 1 (h0 ▸ h1)) fun h => Nat.not_lt.2 (h.2 e) h1
  · simp only [c5, Bool.and_eq_false_iff, decide_eq_false_iff_not, Bool.not_eq_false', Nat.not_lt, Nat.le_zero_eq]
    exact hn.imp_right And.left

theorem okCheck_with (F : Facts) (hc : okCheck F = true) (s : Status)
    (hs : s = .completed ∨ s = .failed ∨ s = .gotChildren ∨ s = .gotRedirected) :
    F.withChildrenStatuses.contains s.name = true := by
  simp only [okCheck, Bool.and_eq_true, beq_iff_eq] at hc
  rw [hc.1.1.1.2]
  rcases hs with rfl | rfl | rfl | rfl <;> simp [Status.name]

theorem okCheck_parent (F : Facts) (hc : okCheck F = true) (s : Status) (hs : s = .gotChildren ∨ s = .gotRedirected) :
    badParent F (some s) = false := by
  simp only [okCheck, Bool.and_eq_true, beq_iff_eq] at hc
  simp only [badParent, hc.1.1.1.1]
  rcases hs with rfl | rfl <;> simp [Status.name]

mutual
theorem Tree.check_prune (F : Facts) (rm : List String) (p : Option Status) (t : Tree)
    (h : t.check F p = none) : (t.prune rm).check F p = none := by
  cases t with
  | node i k =>
    rw [Tree.check_node] at h
    rw [Tree.prune, Tree.check_node]
    exact ⟨checkNode_mono (Forest.length_prune_le rm k) h.1, Forest.check_prune F rm i.st k h.2⟩
theorem Forest.check_prune (F : Facts) (rm : List String) (p : Status) (f : Forest)
    (h : f.check F p = none) : (f.prune rm).check F p = none := by
  cases f with
  | nil => rfl
  | cons t f =>
    rw [Forest.check_cons] at h
    rw [Forest.prune_cons]
    split
    · exact (Forest.check_cons ..).2 ⟨Tree.check_prune F rm (some p) t h.1, Forest.check_prune F rm p f h.2⟩
    · exact Forest.check_prune F rm p f h.2
end

/-- the parent's status matters only to rule 3 (`c3`), that is, to fresh children -/
theorem Forest.check_reparent {F : Facts} {p : Status} (p' : Status) {f : Forest}
    (hok : badParent F (some p') = false ∨ ∀ t ∈ f.toList, t.st ≠ .fresh) (h : f.check F p = none) :
    f.check F p' = none := by
  cases f with
  | nil => rfl
  | cons t f =>
    obtain ⟨i, k⟩ := t
    rw [Forest.check_cons, Tree.check_node, checkNode_none_iff] at h ⊢
    obtain ⟨⟨⟨h1, h2, -, h45⟩, hk⟩, hf⟩ := h
    refine ⟨⟨⟨h1, h2, ?_, h45⟩, hk⟩,
      Forest.check_reparent p' (hok.imp_right fun hnf => (List.forall_mem_cons.1 hnf).2) hf⟩
    rw [c3, Bool.and_eq_false_iff, beq_eq_false_iff_ne]
    exact hok.symm.imp (fun hnf => hnf (.node i k) List.mem_cons_self) id

theorem Forest.allDone_not_fresh {F : Facts} (h : okSets F = true) {f : Forest} (hd : f.allDone F = true) :
    ∀ t ∈ f.toList, t.st ≠ .fresh := by
  cases f with
  | nil => exact List.forall_mem_nil _
  | cons t f =>
    simp only [Forest.allDone, Bool.and_eq_true, Bool.not_eq_true'] at hd
    refine List.forall_mem_cons.2 ⟨fun hf => ?_, Forest.allDone_not_fresh h hd.2⟩
    rw [hasWork_eq F h, hf] at hd
    exact absurd hd.1 (by decide)

mutual
theorem Tree.check_mark (F : Facts) (hs : okSets F = true) (hc : okCheck F = true) (p : Option Status) (t : Tree)
    (h : t.check F p = none) : (t.mark F).check F p = none := by
  cases t with
  | node i k =>
    rw [Tree.check_node] at h
    have ihk := Forest.check_mark F hs hc i.st k h.2
    rw [Tree.mark_node, Tree.check_node, Forest.length_mark]
    split
    · -- marked: a Completed node may have children, and its children, all without work, are not fresh
      rename_i hm
      rw [Bool.and_eq_true] at hm
      exact ⟨checkNode_notFresh F p i _ _ _ rfl nofun (.inr ⟨okCheck_with F hc _ (.inl rfl), nofun⟩) h.1,
        Forest.check_reparent .completed (.inr (Forest.allDone_not_fresh hs hm.1)) ihk⟩
    · exact ⟨h.1, ihk⟩
theorem Forest.check_mark (F : Facts) (hs : okSets F = true) (hc : okCheck F = true) (p : Status) (f : Forest)
    (h : f.check F p = none) : (f.mark F).check F p = none := by
  cases f with
  | nil => rfl
  | cons t f =>
    rw [Forest.check_cons] at h
    rw [Forest.mark, Forest.check_cons]
    exact ⟨Tree.check_mark F hs hc (some p) t h.1, Forest.check_mark F hs hc p f h.2⟩
end

theorem dedupe_consistent (F : Facts) (hs : okSets F = true) (hc : okCheck F = true) (t : Tree)
    (h : t.check F none = none) : (dedupe F t).check F none = none :=
  Tree.check_mark F hs hc none _ (Tree.check_prune F _ none t h)

theorem complete_consistent (F : Facts) (hs : okSets F = true) (hc : okCheck F = true) (t : Tree)
    (h : t.check F none = none) : (completeAndCheck F t).1.check F none = none := by
  fun_cases completeAndCheck F t
  · exact h
  · exact Tree.check_mark F hs hc none t h

theorem Forest.length_mapNode (id : String) (g : Info → Forest → Tree) (f : Forest) :
    (f.mapNode id g).length = f.length := by
  cases f with
  | nil => rfl
  | cons t f => exact congrArg (· + 1) (Forest.length_mapNode id g f)

/-- what a rewrite `g` of the node(s) called `id` must satisfy to keep the tree consistent -/
def GoodRewrite (F : Facts) (id : String) (g : Info → Forest → Tree) : Prop :=
  ∀ (p : Option Status) (i : Info) (k : Forest), i.id = id → (Tree.node i k).check F p = none →
    (g i k).check F p = none ∧ ((g i k).st = .fresh → i.st = .fresh)

mutual
theorem Tree.check_mapNode (F : Facts) (id : String) (g : Info → Forest → Tree) (hg : GoodRewrite F id g)
    (p : Option Status) (t : Tree) (h : t.check F p = none) : (t.mapNode id g).check F p = none := by
  cases t with
  | node i k =>
    rw [Tree.mapNode]
    split
    · exact (hg p i k (eq_of_beq ‹_›) h).1
    · rw [Tree.check_node] at h ⊢
      rw [Forest.length_mapNode]
      exact ⟨h.1, Forest.check_mapNode F id g hg i.st k h.2⟩
theorem Forest.check_mapNode (F : Facts) (id : String) (g : Info → Forest → Tree) (hg : GoodRewrite F id g)
    (p : Status) (f : Forest) (h : f.check F p = none) : (f.mapNode id g).check F p = none := by
  cases f with
  | nil => rfl
  | cons t f =>
    rw [Forest.check_cons] at h
    rw [Forest.mapNode, Forest.check_cons]
    exact ⟨Tree.check_mapNode F id g hg (some p) t h.1, Forest.check_mapNode F id g hg p f h.2⟩
end

/-- the stages' status changes: Fresh→PreProcessed/Seen, PreProcessed→Archived/Failed,
Archived→Completed/Failed, seed→Completed -/
theorem setStatus_leaf_consistent (F : Facts) (t : Tree) (id : String) (s : Status) (hs : s ≠ .fresh)
    (hleaf : ∀ (i : Info) (k : Forest), i.id = id → k = .nil)
    (h : t.check F none = none) : (t.setStatus id s).check F none = none := by
  refine Tree.check_mapNode F id _ (fun p i k hid hc => ?_) none t h
  cases hleaf i k hid
  rw [Tree.check_node] at hc ⊢
  exact ⟨⟨checkNode_notFresh F p i _ _ _ rfl hs (.inl rfl) hc.1, rfl⟩, fun hf => absurd hf hs⟩

theorem Forest.length_removeFirst_le (cid : String) (f : Forest) : (f.removeFirst cid).length ≤ f.length := by
  fun_induction Forest.removeFirst cid f with
  | case1 => exact Nat.le_refl _
  | case2 => exact Nat.le_succ _
  | case3 _ _ _ ih => exact Nat.succ_le_succ ih

theorem Forest.check_removeFirst {F : Facts} (cid : String) {p : Status} {f : Forest} (h : f.check F p = none) :
    (f.removeFirst cid).check F p = none := by
  fun_induction Forest.removeFirst cid f with
  | case1 => rfl
  | case2 => exact ((Forest.check_cons ..).1 h).2
  | case3 _ _ _ ih =>
    rw [Forest.check_cons] at h ⊢
    exact h.imp_right ih

/-- the preprocessor removes a rejected child -/
theorem removeChild_consistent (F : Facts) (t : Tree) (pid cid : String) (h : t.check F none = none) :
    (t.removeChild pid cid).check F none = none := by
  refine Tree.check_mapNode F pid _ (fun p i k _ hc => ?_) none t h
  rw [Tree.check_node] at hc ⊢
  exact ⟨⟨checkNode_mono (Forest.length_removeFirst_le cid k) hc.1, Forest.check_removeFirst cid hc.2⟩, id⟩

theorem Forest.length_append (f g : Forest) : (f.append g).length = f.length + g.length := by
  fun_induction Forest.append f g with
  | case1 => exact (Nat.zero_add _).symm
  | case2 t f g ih => simp +arith only [Forest.length, ih]

theorem Forest.check_append {F : Facts} {p : Status} {f g : Forest} (hf : f.check F p = none)
    (hg : g.check F p = none) : (f.append g).check F p = none := by
  cases f with
  | nil => exact hg
  | cons t f =>
    rw [Forest.check_cons] at hf
    rw [Forest.append, Forest.check_cons]
    exact ⟨hf.1, Forest.check_append hf.2 hg⟩

/-- the postprocessor adding a child: an asset (`GotChildren`, any number) or a redirect target (`GotRedirected`, to a
childless node) -/
theorem addChild_consistent (F : Facts) (hc : okCheck F = true) (t : Tree) (pid : String) (c : Info)
    (from' : Status) (hfrom : from' = .gotChildren ∨ from' = .gotRedirected) (hvia : c.via = false)
    (hred : from' = .gotRedirected → ∀ (i : Info) (k : Forest), i.id = pid → k = .nil)
    (h : t.check F none = none) : (t.addChild pid c from').check F none = none := by
  have hfp := okCheck_parent F hc from' hfrom
  have hnf : from' ≠ .fresh := by rcases hfrom with rfl | rfl <;> nofun
  refine Tree.check_mapNode F pid _ (fun p i k hid hck => ?_) none t h
  rw [Tree.check_node] at hck ⊢
  refine ⟨⟨?_, Forest.check_append (Forest.check_reparent from' (.inl hfp) hck.2) ?_⟩,
    fun hf => absurd hf hnf⟩
  · -- the parent: a redirected parent had no child, so it has one now
    refine checkNode_notFresh F p i _ _ _ rfl hnf (.inr ⟨okCheck_with F hc _ (.inr (.inr hfrom)), fun hr => ?_⟩) hck.1
    cases hred hr i k hid
    exact Nat.le_refl 1
  · -- the new child: fresh, childless, without `via`; its parent may have fresh children
    rw [Forest.check_cons, Tree.check_node, checkNode_none_iff]
    exact ⟨⟨by simp [c1, c2, c3, c4, c5, hvia, hfp, Forest.length], rfl⟩, rfl⟩

end Zeno.Model.Item
