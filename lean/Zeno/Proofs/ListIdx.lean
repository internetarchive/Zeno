/-! Taking the `i`-th entry out of a list, or replacing it, as a permutation: whatever is additive over a list (a count, a sum, the
flattening) changes by that entry. -/
namespace List

theorem perm_cons_eraseIdx {α} {l : List α} {i : Nat} {a : α} (h : l[i]? = some a) : l.Perm (a :: l.eraseIdx i) := by
  obtain ⟨hi, rfl⟩ := getElem?_eq_some_iff.1 h
  conv => lhs; rw [← take_append_drop i l, drop_eq_getElem_cons hi]
  rw [eraseIdx_eq_take_drop_succ]
  exact perm_middle

theorem set_perm_cons_eraseIdx {α} {l : List α} {i : Nat} {a : α} (b : α) (h : l[i]? = some a) :
    (l.set i b).Perm (b :: l.eraseIdx i) :=
  eraseIdx_set_eq ▸ perm_cons_eraseIdx (getElem?_set_self (getElem?_eq_some_iff.1 h).1)

end List
