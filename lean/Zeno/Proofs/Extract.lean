import Zeno.Model.Extract
/-!
What the extractors find. JSON: the strings of a value at any depth (`J.at`) are strings of the document. S3: a page yields
the keys of its non-empty objects (`legacy_page_keys`, `v2_page_keys`). The marker walk takes the bucket page by page (`take` /
`drop`); the list-type=2 walk sees the pages of a folder, which partition its entries (`chunk_flatten`). So both reach every object.
-/
namespace Zeno.Model.Extract

/-! ### used in the statements of Props/C19 -/

mutual
/-- the value at a path of positions (members of an object by position: keys are not modelled) -/
def J.at : J → List Nat → Option J
  | j, [] => some j
  | .arr xs, i :: p => xs.at i p
  | .obj kvs, i :: p => kvs.at i p
  | _, _ :: _ => none
def JList.at : JList → Nat → List Nat → Option J
  | .nil, _, _ => none
  | .cons x _, 0, p => x.at p
  | .cons _ r, i + 1, p => r.at i p
end

/-- the source shapes the two S3 walks mirror (`Props/C19.facts_ok` evaluates them); the lemmas use the first three (`okS3_facts`) -/
def okS3 (E : EF) : Bool :=
  E.s3LegacyNextWhenNonEmpty && E.s3SkipsEmptyObjects && E.s3V2MixedPages == "both" && E.s3V2ContinuationWhenTruncated &&
  E.s3V2SubfolderLinks

def keysOf (objs : List Obj) : List String := (objs.filter (fun o => o.size > 0)).map (·.key)

/-! ### JSON -/

mutual
theorem J.strings_at (j : J) {p : List Nat} {j' : J} (h : j.at p = some j') : j'.strings ⊆ j.strings := by
  cases p with
  | nil => rw [J.at] at h; cases h; exact List.Subset.refl _
  | cons i p =>
    cases j with
    | arr xs | obj xs => exact JList.strings_at xs h
    | null | bool _ | num | str _ => cases h
theorem JList.strings_at (l : JList) {i : Nat} {p : List Nat} {j' : J} (h : l.at i p = some j') : j'.strings ⊆ l.strings := by
  cases l with
  | nil => cases h
  | cons x r =>
    cases i with
    | zero => exact (J.strings_at x h).trans (List.subset_append_left _ _)
    | succ i => exact (JList.strings_at r h).trans (List.subset_append_right _ _)
end

theorem J.at_str_mem {j : J} {p : List Nat} {s : String} (h : j.at p = some (.str s)) : s ∈ j.strings :=
  J.strings_at j h List.mem_cons_self

/-- **completeness**: a string value that is a URL, wherever it sits, is found -/
theorem findURLs_complete {o : JOracle} {fuel : Nat} {j : J} {s : String} (hs : s ∈ j.strings) (hu : o.isURL s = true) :
    s ∈ findURLs o fuel j := by
  cases fuel <;> exact List.mem_flatMap.2 ⟨s, hs, if_pos hu ▸ List.mem_singleton_self s⟩

/-- URLs in JSON embedded in a string value are found too -/
theorem findURLs_embedded {o : JOracle} {fuel : Nat} {j j' : J} {s u : String} (hs : s ∈ j.strings) (hn : o.isURL s = false)
    (he : o.embedded s = some j') (hu : u ∈ findURLs o fuel j') : u ∈ findURLs o (fuel + 1) j :=
  List.mem_flatMap.2 ⟨s, hs, by simp [hn, he, hu]⟩

/-- **soundness**: whatever is found is a URL according to the oracle -/
theorem findURLs_sound {o : JOracle} {fuel : Nat} {j : J} {u : String} (h : u ∈ findURLs o fuel j) : o.isURL u = true := by
  induction fuel generalizing j with
  | zero =>
    obtain ⟨s, -, hs⟩ := List.mem_flatMap.1 h
    obtain ⟨hu, hs⟩ := List.mem_ite_nil_right.1 hs
    exact List.mem_singleton.1 hs ▸ hu
  | succ f ih =>
    obtain ⟨s, -, hs⟩ := List.mem_flatMap.1 h
    split at hs
    · next hu => exact List.mem_singleton.1 hs ▸ hu
    · split at hs
      · exact ih hs
      · cases hs

/-! ### the asset / outlink split -/

theorem split_assets (urls : List String) (u : String) :
    u ∈ (split urls).assets ↔ u ∈ urls ∧ hasFileExtension u.toList = true := by
  simp [split, List.mem_filter]

theorem split_outlinks (urls : List String) (u : String) :
    u ∈ (split urls).outlinks ↔ u ∈ urls ∧ hasFileExtension u.toList = false := by
  simp [split, List.mem_filter]

theorem split_partition (urls : List String) (u : String) (h : u ∈ urls) :
    (u ∈ (split urls).assets ∧ u ∉ (split urls).outlinks) ∨ (u ∈ (split urls).outlinks ∧ u ∉ (split urls).assets) := by
  rw [split_assets, split_outlinks]
  cases hasFileExtension u.toList <;> simp [h]

theorem cutAt_prefix (c : Char) {a : List Char} (b : List Char) (h : c ∉ a) : cutAt c (a ++ b) = a ++ cutAt c b := by
  induction a with
  | nil => rfl
  | cons x xs ih =>
    simp [cutAt, (List.ne_of_not_mem_cons h).symm, ih (List.not_mem_of_not_mem_cons h)]

theorem cutAt_append (c : Char) (a b : List Char) (h : c ∉ a) : cutAt c (a ++ c :: b) = a := by
  simp [cutAt_prefix c _ h, cutAt]

theorem cutAt_none (c : Char) (a : List Char) (h : c ∉ a) : cutAt c a = a := by
  simpa [cutAt] using cutAt_prefix c [] h

theorem ext_ignores_fragment (s f : List Char) (h : '#' ∉ s) : hasFileExtension (s ++ '#' :: f) = hasFileExtension s := by
  simp only [hasFileExtension, cutAt_append '#' s f h, cutAt_none '#' s h]

theorem ext_ignores_query (s q : List Char) (h1 : '#' ∉ s) (h2 : '?' ∉ s) (h3 : '#' ∉ q) :
    hasFileExtension (s ++ '?' :: q) = hasFileExtension s := by
  have : '#' ∉ s ++ '?' :: q := by simp [h1, h3]
  simp only [hasFileExtension, cutAt_none '#' _ this, cutAt_none '#' s h1, cutAt_append '?' s q h2, cutAt_none '?' s h2]

/-! ### XML and M3U8 -/

theorem xml_attr_found (toks : List XTok) (attrs : List String) (v : String) (ht : XTok.start attrs ∈ toks) (hv : v ∈ attrs)
    (hp : startsHttp v = true) : v ∈ xmlURLs toks :=
  List.mem_flatMap.2 ⟨_, ht, List.mem_filter.2 ⟨hv, hp⟩⟩

theorem xml_text_found (toks : List XTok) (t : String) (found : List String) (ht : XTok.text t found ∈ toks)
    (hp : startsHttp t = true) : t ∈ xmlURLs toks :=
  List.mem_flatMap.2 ⟨_, ht, by simp [hp]⟩

theorem xml_regex_found (toks : List XTok) (t : String) (found : List String) (u : String) (ht : XTok.text t found ∈ toks)
    (hp : startsHttp t = false) (hu : u ∈ found) : u ∈ xmlURLs toks :=
  List.mem_flatMap.2 ⟨_, ht, by simp [hp, hu]⟩

theorem m3u8_segment_found (segs : List String) (u : String) (h : u ∈ segs) (hne : u ≠ "") : u ∈ m3u8URIs (.media segs) :=
  List.mem_filter.2 ⟨h, bne_iff_ne.2 hne⟩

theorem m3u8_variant_found (vs : List Variant) (v : Variant) (hv : v ∈ vs) :
    (v.uri ≠ "" → v.uri ∈ m3u8URIs (.master vs)) ∧ (∀ a ∈ v.alternatives, a ≠ "" → a ∈ m3u8URIs (.master vs)) :=
  ⟨fun h => List.mem_flatMap.2 ⟨v, hv, List.mem_append_left _ (if_pos (bne_iff_ne.2 h) ▸ List.mem_singleton_self _)⟩,
    fun _ ha hne => List.mem_flatMap.2 ⟨v, hv, List.mem_append_right _ (List.mem_filter.2 ⟨ha, bne_iff_ne.2 hne⟩)⟩⟩

/-! ### S3 -/

theorem okS3_facts {E : EF} (h : okS3 E = true) :
    E.s3LegacyNextWhenNonEmpty = true ∧ E.s3SkipsEmptyObjects = true ∧ E.s3V2MixedPages = "both" := by
  simp only [okS3, Bool.and_eq_true, beq_iff_eq] at h
  exact ⟨h.1.1.1.1, h.1.1.1.2, h.1.1.2⟩

theorem keysOf_append (a b : List Obj) : keysOf (a ++ b) = keysOf a ++ keysOf b := by
  simp [keysOf]

theorem objectKeys_append (a b : List Link) : objectKeys (a ++ b) = objectKeys a ++ objectKeys b :=
  List.filterMap_append

theorem objectKeys_objects (objs : List Obj) : objectKeys (objs.map (fun o => Link.object o.key)) = objs.map (·.key) :=
  List.filterMap_map.trans (congrFun List.filterMap_eq_map' objs)

theorem objectKeys_subfolders (ps : List String) : objectKeys (ps.map Link.subfolder) = [] :=
  List.filterMap_map.trans (List.filterMap_eq_nil_iff.2 fun _ _ => rfl)

theorem legacy_page_keys {E : EF} (h : okS3 E = true) (p : Page) : objectKeys (s3Legacy E p) = keysOf p.contents := by
  obtain ⟨h1, h2, -⟩ := okS3_facts h
  simp only [s3Legacy, h1, h2, Bool.not_true, Bool.false_or, objectKeys_append, objectKeys_objects, keysOf]
  cases p.contents.getLast? <;> rfl

theorem legacy_page_next {E : EF} (h : okS3 E = true) (p : Page) :
    (s3Legacy E p).any Link.isNextMarker = !p.contents.isEmpty := by
  rw [s3Legacy, (okS3_facts h).1, List.any_append, List.any_map]
  cases hp : p.contents with
  | nil => rfl
  | cons o os => rw [List.getLast?_eq_some_getLast (List.cons_ne_nil o os)]; rfl

/-- **marker-paginated walk**: the crawler queues exactly the non-empty objects of the bucket, in order. It sends one request
per page plus one for the final empty page; more fuel than objects covers that. -/
theorem legacyWalk_all {E : EF} (h : okS3 E = true) (k : Nat) {fuel : Nat} {objs : List Obj} (hf : objs.length < fuel) :
    legacyWalk E k fuel objs = keysOf objs := by
  induction fuel generalizing objs with
  | zero => cases hf
  | succ f ih =>
    simp only [legacyWalk, legacy_page_keys h, legacy_page_next h]
    cases objs with
    | nil => rfl
    | cons o os =>
      rw [if_pos (by simp), ih, ← keysOf_append, List.take_append_drop]
      -- what is left, `os.drop k`, is at most as long as `os`
      exact Nat.lt_of_le_of_lt (List.drop_sublist k os).length_le (Nat.lt_of_succ_lt_succ hf)

theorem chunk_flatten (k : Nat) (fuel : Nat) (es : List Entry) (hf : es.length ≤ fuel) : (chunk k fuel es).flatten = es := by
  fun_induction chunk k fuel es with
  | case1 es => exact (List.eq_nil_of_length_eq_zero (Nat.le_zero.1 hf)).symm
  | case2 => rfl
  | case3 f es _ ih => rw [List.flatten_cons, ih (by rw [List.length_drop]; omega), List.take_append_drop]

/-- a list-type=2 page yields the keys of its non-empty objects, also when it carries common prefixes -/
theorem v2_page_keys {E : EF} (h : okS3 E = true) (p : Page) : objectKeys (s3V2 E p) = keysOf p.contents := by
  obtain ⟨-, h2, h3⟩ := okS3_facts h
  have hlast (c : Bool) (t : String) : objectKeys (if c then [Link.nextToken t] else []) = [] := by cases c <;> rfl
  simp only [s3V2, h2, h3, beq_self_eq_true, Bool.or_true, if_true, Bool.not_true, Bool.false_or, objectKeys_append,
    objectKeys_subfolders, objectKeys_objects, hlast, List.nil_append, List.append_nil, keysOf]

theorem folder_has_object {E : EF} (h : okS3 E = true) (k : Nat) {es : List Entry} {o : Obj} (ho : Entry.obj o ∈ es) (hs : o.size > 0) :
    o.key ∈ folderObjects E k es := by
  obtain ⟨pg, hpg, hin⟩ := List.mem_flatten.1 (chunk_flatten k es.length es (Nat.le_refl _) ▸ ho)
  refine List.mem_flatMap.2 ⟨pg, hpg, ?_⟩
  rw [v2_page_keys h]
  exact List.mem_map.2 ⟨o, List.mem_filter.2 ⟨List.mem_filterMap.2 ⟨_, hin, rfl⟩, decide_eq_true hs⟩, rfl⟩

mutual
/-- **bucket with folders, list-type=2**: every non-empty object, at any folder depth, is queued — provided the server lists
every object of a folder among that folder's entries -/
theorem Dir.walk_complete (E : EF) (h : okS3 E = true) (k : Nat) (order : List Obj → List String → List Entry)
    (hord : ∀ objs names o, o ∈ objs → Entry.obj o ∈ order objs names) (d : Dir) :
    ∀ o ∈ d.allObjects, o.key ∈ d.walk E k order := by
  cases d with
  | node objs subs =>
    intro o ho
    simp only [Dir.allObjects, List.mem_append, List.mem_filter, decide_eq_true_eq] at ho
    rw [Dir.walk, List.mem_append]
    exact ho.imp (fun ⟨hm, hs⟩ => folder_has_object h k (hord objs subs.names o hm) hs)
      (DirList.walk_complete E h k order hord subs o)
theorem DirList.walk_complete (E : EF) (h : okS3 E = true) (k : Nat) (order : List Obj → List String → List Entry)
    (hord : ∀ objs names o, o ∈ objs → Entry.obj o ∈ order objs names) (l : DirList) :
    ∀ o ∈ l.allObjects, o.key ∈ l.walk E k order := by
  cases l with
  | nil => nofun
  | cons n d r =>
    intro o ho
    rw [DirList.allObjects, List.mem_append] at ho
    rw [DirList.walk, List.mem_append]
    exact ho.imp (Dir.walk_complete E h k order hord d o) (DirList.walk_complete E h k order hord r o)
end

end Zeno.Model.Extract
