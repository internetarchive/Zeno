import Zeno.Proofs.Life
import Zeno.Proofs.Depth
/-!
The finisher lets a seed go only when its whole tree is done — proved for the composition of the stage models themselves
(`Model/Life.lean`), not for trees assumed to be well shaped.

The extra invariant is the *working path* `wp`: with the frontier `r` levels down, every node that still has a descendant
on the frontier is GotChildren or GotRedirected. So (i) a rejected child has such a parent: it is removed, and never
mistaken for a rejected seed; (ii) completion marking cannot complete a node above a Fresh frontier: the finisher sends
such a seed round again.
-/
namespace Zeno.Model.Life
open Zeno.Model.Item Zeno.Model.Stages

/-- the statuses of a node whose children are under way -/
def isPar (s : Status) : Bool := s == .gotChildren || s == .gotRedirected

theorem isPar_iff {s : Status} : isPar s = true ↔ s = .gotChildren ∨ s = .gotRedirected := by
  rw [isPar, Bool.or_eq_true, beq_iff_eq, beq_iff_eq]

mutual
def _root_.Zeno.Model.Item.Tree.wp (r : Nat) : Tree → Bool
  | .node i k => match r with
    | 0 => true
    | r' + 1 => (isPar i.st || (k.atLevel r').isEmpty) && k.wp r'
def _root_.Zeno.Model.Item.Forest.wp (r : Nat) : Forest → Bool
  | .nil => true
  | .cons t f => t.wp r && f.wp r
end

theorem _root_.Zeno.Model.Item.Tree.wp_zero (t : Tree) : t.wp 0 = true := by cases t <;> rfl

theorem Forest.wp_cons {t : Tree} {f : Forest} {r : Nat} : (Forest.cons t f).wp r = true ↔ t.wp r = true ∧ f.wp r = true :=
  Bool.and_eq_true_iff

theorem _root_.Zeno.Model.Item.Forest.wp_zero (f : Forest) : f.wp 0 = true := by
  cases f with
  | nil => rfl
  | cons t f => exact Forest.wp_cons.2 ⟨t.wp_zero, f.wp_zero⟩

theorem Tree.wp_succ (i : Info) (k : Forest) (r : Nat) :
    (Tree.node i k).wp (r + 1) = ((isPar i.st || (k.atLevel r).isEmpty) && k.wp r) := rfl

theorem Tree.wp_succ_iff {i : Info} {k : Forest} {r : Nat} :
    (Tree.node i k).wp (r + 1) = true ↔ (k.atLevel r ≠ [] → isPar i.st = true) ∧ k.wp r = true := by
  rw [Tree.wp_succ, Bool.and_eq_true, Bool.or_eq_true, List.isEmpty_iff, or_comm, Decidable.or_iff_not_imp_left]

/-! ### operations that keep the working path -/

mutual
theorem _root_.Zeno.Model.Item.Tree.Sim.wp {Rel : Nat → Info → Info → Prop} {n : Nat} {t t' : Tree} (h : Tree.Sim Rel n t t') (r : Nat)
    (hrel : ∀ m, m < r → ∀ i ∈ t.atLevel m, ∀ i', Rel (n + m) i i' → isPar i'.st = isPar i.st) : t'.wp r = t.wp r := by
  cases t with
  | node i k =>
    cases t' with
    | node i' k' =>
      cases r with
      | zero => rfl
      | succ r =>
        obtain ⟨h1, h2⟩ := h
        rw [Tree.wp_succ, Tree.wp_succ, hrel 0 (Nat.succ_pos r) i (List.mem_singleton_self i) i' h1, (h2.atLevel r).isEmpty_eq,
          h2.wp r (fun m hm j hj j' hj' => hrel (m + 1) (Nat.succ_lt_succ hm) j hj j' (Nat.succ_add_eq_add_succ n m ▸ hj'))]
theorem _root_.Zeno.Model.Item.Forest.Sim.wp {Rel : Nat → Info → Info → Prop} {n : Nat} {f f' : Forest} (h : Forest.Sim Rel n f f') (r : Nat)
    (hrel : ∀ m, m < r → ∀ i ∈ f.atLevel m, ∀ i', Rel (n + m) i i' → isPar i'.st = isPar i.st) : f'.wp r = f.wp r := by
  cases f with
  | nil =>
    cases f' with
    | nil => rfl
    | cons _ _ => exact h.elim
  | cons t f =>
    cases f' with
    | nil => exact h.elim
    | cons t' f' =>
      rw [Forest.wp, Forest.wp, h.1.wp r (fun m hm i hi => hrel m hm i (List.mem_append_left _ hi)),
        h.2.wp r (fun m hm i hi => hrel m hm i (List.mem_append_right _ hi))]
end

theorem Tree.wp_setNorm (ks : List (String × NormRes)) (r : Nat) (t : Tree) : (t.setNorm ks).wp r = t.wp r :=
  (Tree.sim_setNorm ks 0 t).wp r (fun _ _ i _ _ e => by rw [e, normInfo_st])

theorem Tree.wp_setStatuses (l : List String) (s : Status) (rq : Bool) (r : Nat) (t : Tree)
    (hno : ∀ n, n < r → ∀ i ∈ t.atLevel n, l.contains i.id = false) : (t.setStatuses l s rq).wp r = t.wp r :=
  (Tree.sim_setStatuses l s rq 0 t).wp r (fun m hm i hi _ e => by rw [e, stamp, hno m hm i hi]; rfl)

theorem isPar_archInfo (srv : String → Option Outcome) (b : Bool) (i : Info) : isPar (archInfo srv b i).st = isPar i.st := by
  rcases archInfo_st srv b i with ⟨_, e⟩ | ⟨_, hs, e | e⟩
  · rw [e]
  · rw [e, hs]; rfl
  · rw [e, hs]; rfl

theorem Tree.wp_archive (srv : String → Option Outcome) (w lvl r : Nat) (t : Tree) : (t.archive srv w lvl).wp r = t.wp r :=
  (Tree.sim_archive srv w lvl t).wp r (fun _ _ i _ _ e => e ▸ isPar_archInfo srv _ i)

mutual
theorem Tree.wp_prune (rm : List String) (r : Nat) (t : Tree) (h : t.wp r = true) : (t.prune rm).wp r = true := by
  cases r with
  | zero => exact Tree.wp_zero _
  | succ r =>
    cases t with
    | node i k =>
      rw [Tree.wp_succ_iff] at h
      rw [Tree.prune, Tree.wp_succ_iff]
      -- an empty level stays empty
      exact ⟨fun hne => h.1 fun h0 => hne (List.eq_nil_of_sublist_nil (h0 ▸ Forest.atLevel_prune_sublist rm k r)),
        Forest.wp_prune rm r k h.2⟩
theorem Forest.wp_prune (rm : List String) (r : Nat) (f : Forest) (h : f.wp r = true) : (f.prune rm).wp r = true := by
  cases f with
  | nil => rfl
  | cons t f =>
    rw [Forest.wp_cons] at h
    rw [Forest.prune]
    cases rm.contains t.info.id
    · exact Forest.wp_cons.2 ⟨Tree.wp_prune rm r t h.1, Forest.wp_prune rm r f h.2⟩
    · exact Forest.wp_prune rm r f h.2
end

theorem isPar_hasWork (F : IF) (hF : okSets F = true) {s : Status} (h : isPar s = true) : hasWork F s = true := by
  rw [hasWork_eq F hF]
  rcases isPar_iff.1 h with rfl | rfl <;> rfl

mutual
theorem Tree.wp_mark (F : IF) (hF : okSets F = true) (r : Nat) (t : Tree) (hfr : ∀ i ∈ t.atLevel r, i.st = .fresh) (h : t.wp r = true) :
    (t.mark F).wp r = true ∧ (t.atLevel r ≠ [] → hasWork F (t.mark F).st = true) := by
  cases t with
  | node i k =>
    cases r with
    | zero =>
      refine ⟨Tree.wp_zero _, fun _ => ?_⟩
      have hi : i.st = .fresh := hfr i (List.mem_singleton_self i)
      have hnm : F.markableStatuses.contains i.st.name = false := by rw [markable_eq F hF, hi]; rfl
      rw [Tree.mark_node, hnm, Bool.and_false, hasWork_eq F hF, hi]; rfl
    | succ r =>
      rw [Tree.wp_succ_iff] at h
      have hk := Forest.wp_mark F hF r k hfr h.2
      by_cases hne : k.atLevel r = []
      · -- no frontier below: the condition holds through the empty level
        refine ⟨?_, absurd hne⟩
        rw [Tree.mark_node, Tree.wp_succ_iff]
        exact ⟨absurd (((Forest.sim_mark F 0 k).atLevel r).nil_iff.2 hne), hk.1⟩
      · -- frontier below: the node is GotChildren / GotRedirected, and stays so since not all its children are done
        rw [Tree.mark_node, hk.2 hne]
        exact ⟨Tree.wp_succ_iff.2 ⟨fun _ => h.1 hne, hk.1⟩, fun _ => isPar_hasWork F hF (h.1 hne)⟩
theorem Forest.wp_mark (F : IF) (hF : okSets F = true) (r : Nat) (f : Forest) (hfr : ∀ i ∈ f.atLevel r, i.st = .fresh) (h : f.wp r = true) :
    (f.mark F).wp r = true ∧ (f.atLevel r ≠ [] → (f.mark F).allDone F = false) := by
  cases f with
  | nil => exact ⟨rfl, absurd rfl⟩
  | cons t f =>
    rw [Forest.wp_cons] at h
    rw [Forest.atLevel, List.forall_mem_append] at hfr
    have ht := Tree.wp_mark F hF r t hfr.1 h.1
    have hf := Forest.wp_mark F hF r f hfr.2 h.2
    refine ⟨Forest.wp_cons.2 ⟨ht.1, hf.1⟩, fun hne => ?_⟩
    rw [Forest.atLevel, Ne, List.append_eq_nil_iff, Decidable.not_and_iff_not_or_not] at hne
    rw [Forest.mark, Forest.allDone, Bool.and_eq_false_iff, Bool.not_eq_false']
    exact hne.imp ht.2 hf.2
end

mutual
theorem Tree.wp_post (S : SF) (hS : okPost S = true) (cfg : Cfg) (ex : String → Extract) (d lvl r : Nat) (pdnr : Int) (isSeed : Bool)
    (t : Tree) (hr : lvl + r = d) (hemp : t.atLevel (r + 1) = []) (h : t.wp r = true) :
    (t.post S cfg ex d lvl pdnr isSeed).1.wp (r + 1) = true := by
  cases t with
  | node i k =>
    cases r with
    | zero =>
      -- the working level: no children yet, and a node that gets some becomes GotChildren / GotRedirected
      obtain rfl : lvl = d := hr
      obtain rfl : k = .nil := forest_atLevel_zero_nil hemp
      rw [Tree.post_node, if_pos (beq_iff_eq.2 rfl)]
      cases i.st == .archived
      · exact Tree.wp_succ_iff.2 ⟨absurd rfl, rfl⟩
      · rw [if_pos rfl, Tree.wp_succ_iff]
        refine ⟨fun hne => ?_, Forest.wp_zero _⟩
        rw [Forest.append, leaves_atLevel_zero] at hne
        exact isPar_iff.2 ((PostAct.st_kids _).2.2 hne)
    | succ r =>
      have hemp' : k.atLevel (r + 1) = [] := hemp
      have hr' := (Nat.succ_add_eq_add_succ lvl r).trans hr
      rw [Tree.wp_succ_iff] at h
      rw [Tree.post_node, if_neg (by simp [← hr]), Tree.wp_succ_iff]
      refine ⟨fun hne => ?_, Forest.wp_post S hS cfg ex d (lvl + 1) r _ k hr' hemp' h.2⟩
      -- a node of the new frontier is a new child of a node of the old one
      obtain ⟨j, hj⟩ := List.exists_mem_of_ne_nil _ hne
      rcases Forest.post_from S cfg ex d (lvl + 1) r _ k hr' hemp' (r + 1) j hj with ⟨i', hi', _⟩ | ⟨_, _, i', hi', _⟩
      · rw [hemp'] at hi'
        cases hi'
      · exact h.1 (List.ne_nil_of_mem hi')
/-- `hS` is not needed (nor in `Tree.wp_post`, which hands it on) -/
theorem Forest.wp_post (S : SF) (hS : okPost S = true) (cfg : Cfg) (ex : String → Extract) (d lvl r : Nat) (pdnr : Int)
    (f : Forest) (hr : lvl + r = d) (hemp : f.atLevel (r + 1) = []) (h : f.wp r = true) :
    (f.post S cfg ex d lvl pdnr).1.wp (r + 1) = true := by
  cases f with
  | nil => rfl
  | cons t f =>
    rw [Forest.wp_cons] at h
    rw [Forest.atLevel, List.append_eq_nil_iff] at hemp
    exact Forest.wp_cons.2 ⟨Tree.wp_post S hS cfg ex d lvl r pdnr false t hr hemp.1 h.1,
      Forest.wp_post S hS cfg ex d lvl r pdnr f hr hemp.2 h.2⟩
end

/-! ### the working path of a forest under each relabelling operation (instances of `Forest.Sim.wp`) -/

theorem Forest.wp_setNorm (ks : List (String × NormRes)) (r : Nat) (f : Forest) : (f.setNorm ks).wp r = f.wp r :=
  (Forest.sim_setNorm ks 0 f).wp r (fun _ _ i _ _ e => by rw [e, normInfo_st])

theorem Forest.wp_setStatuses (l : List String) (s : Status) (rq : Bool) (r : Nat) (f : Forest)
    (hno : ∀ n, n < r → ∀ i ∈ f.atLevel n, l.contains i.id = false) : (f.setStatuses l s rq).wp r = f.wp r :=
  (Forest.sim_setStatuses l s rq 0 f).wp r (fun m hm i hi _ e => by rw [e, stamp, hno m hm i hi]; rfl)

set_option linter.unusedVariables false in
/-- wherever the working level `w` lies: `hle` is not needed -/
theorem Forest.wp_archive (srv : String → Option Outcome) (w lvl r : Nat) (f : Forest) (hle : lvl + r ≤ w) :
    (f.archive srv w lvl).wp r = f.wp r :=
  (Forest.sim_archive srv w lvl f).wp r (fun _ _ i _ _ e => e ▸ isPar_archInfo srv _ i)

/-! ### the parent the preprocessor sees -/

mutual
theorem Tree.parentStatus_mem {id : String} {t : Tree} {s : Status} (h : t.parentStatus id = some s) : id ∈ t.kids.idl := by
  cases t with
  | node i k => exact Forest.parentStatusIn_mem i.st id k s h
theorem Forest.parentStatusIn_mem (p : Status) (id : String) (f : Forest) (s : Status) (h : f.parentStatusIn p id = some s) : id ∈ f.idl := by
  cases f with
  | nil => nomatch h
  | cons t f =>
    rw [Forest.idl_cons, Tree.idl_eq, List.mem_append, List.mem_cons]
    rw [Forest.parentStatusIn] at h
    split at h
    next heq => exact Or.inl (Or.inl (beq_iff_eq.1 heq).symm)
    next =>
      split at h
      next hs' => exact Or.inl (Or.inr (Tree.parentStatus_mem hs'))
      next => exact Or.inr (Forest.parentStatusIn_mem p id f s h)
end

mutual
theorem Tree.parentStatus_par (t : Tree) (hn : t.idl.Nodup) (r : Nat) (hw : t.wp (r + 1) = true) (j : Info) (hj : j ∈ t.atLevel (r + 1)) :
    ∃ s, t.parentStatus j.id = some s ∧ isPar s = true := by
  cases t with
  | node i k =>
    rw [Tree.idl_node, List.nodup_cons] at hn
    rw [Tree.wp_succ_iff] at hw
    exact Forest.parentStatusIn_par i.st (hw.1 (List.ne_nil_of_mem hj)) k hn.2 r hw.2 j hj
theorem Forest.parentStatusIn_par (p : Status) (hp : isPar p = true) (f : Forest) (hn : f.idl.Nodup) (r : Nat) (hw : f.wp r = true)
    (j : Info) (hj : j ∈ f.atLevel r) : ∃ s, f.parentStatusIn p j.id = some s ∧ isPar s = true := by
  cases f with
  | nil => nomatch hj
  | cons t f =>
    rw [Forest.idl_cons, List.nodup_append] at hn
    rw [Forest.wp_cons] at hw
    rw [Forest.atLevel, List.mem_append] at hj
    rw [Forest.parentStatusIn]
    split
    next => exact ⟨p, rfl, hp⟩
    next hne =>
      rcases hj with hj | hj
      · -- the node is in this tree, below its root (the root has another id)
        cases r with
        | zero =>
          rw [Tree.atLevel_zero, List.mem_singleton] at hj
          exact absurd (beq_iff_eq.2 (congrArg Info.id hj.symm)) hne
        | succ r' =>
          obtain ⟨s, hs, hps⟩ := Tree.parentStatus_par t hn.1 r' hw.1 j hj
          rw [hs]
          exact ⟨s, rfl, hps⟩
      · -- the node is in a later tree: this one does not know its id
        cases hs : t.parentStatus j.id with
        | none => exact Forest.parentStatusIn_par p hp f hn.2.1 r hw.2 j hj
        | some s =>
          exact absurd rfl (hn.2.2 _ (by rw [Tree.idl_eq]; exact List.mem_cons_of_mem _ (Tree.parentStatus_mem hs)) _
            (Forest.mem_idl_of_atLevel hj))
end

/-! ### `preprocess`: nothing but the seed is taken for the seed -/

theorem verdict_child (cfg : Cfg) (norm : String → Option NormRes) {t : Tree} {i : Info} (hf : i.st = .fresh)
    (hp : ∃ s, t.parentStatus i.id = some s ∧ isPar s = true) : (verdict cfg norm t i).quiet = true := by
  obtain ⟨s, hs, hps⟩ := hp
  have hv := verdict_spec cfg norm t i
  revert hv
  cases verdict cfg norm t i with
  | keep _ | remove => exact fun _ => rfl
  | panic => exact absurd hf
  | stop st =>
    -- the seed alone is stopped at: a node with a parent of either status is removed instead
    rw [hs]
    intro hv
    rcases isPar_iff.1 hps with rfl | rfl
    · exact absurd rfl hv.2.2.1
    · exact absurd rfl hv.2.2.2

theorem scan_flag_none (cfg : Cfg) (norm : String → Option NormRes) (t : Tree) (items : List Info)
    (hf : ∀ i ∈ items, i.st = .fresh ∧ ∃ s, t.parentStatus i.id = some s ∧ isPar s = true) :
    (scan cfg norm t items).2.2 = none :=
  (scan_none_iff cfg norm t items).2 fun i hi => verdict_child cfg norm (hf i hi).1 (hf i hi).2

/-- between the stages, with the working path -/
structure MidW (R d : Nat) (P : Status → Prop) (t : Tree) : Prop extends Mid R d P t where
  path : t.wp d = true

theorem MidW.dedupe {R d : Nat} {t : Tree} (h : MidW R d (· = .fresh) t) (F : IF) (hF : okSets F = true) :
    MidW R d (· = .fresh) (dedupe F t) :=
  ⟨h.toMid.dedupe F hF, (Tree.wp_mark F hF d _ (h.prune _).lev (Tree.wp_prune _ d t h.path)).1⟩

theorem MidW.setStatuses {R d : Nat} {P Q : Status → Prop} {t : Tree} (h : MidW R d P t) (l : List String) (s : Status) (rq : Bool)
    (hl : ∀ x ∈ l, ∃ i ∈ t.atLevel d, i.id = x) (hm : Mid R d Q (t.setStatuses l s rq)) : MidW R d Q (t.setStatuses l s rq) :=
  -- above the working level no node is in `l`
  ⟨hm, (Tree.wp_setStatuses l s rq d t fun _ hn _ hi => Bool.eq_false_iff.2 fun hc =>
    Nat.ne_of_lt hn (level_of_id h.ids hl hi hc)).trans h.path⟩

theorem setRoot_noPending {t : Tree} {s : Status} (hs : s = .completed ∨ s = .failed)
    (h : ∀ n, ∀ i ∈ t.atLevel (n + 1), i.st.pending = false) : (setRoot t s).anyPending = false := by
  cases t with
  | node i k =>
    rw [setRoot, Tree.anyPending, Bool.or_eq_false_iff]
    exact ⟨by rcases hs with rfl | rfl <;> rfl, Forest.anyPending_of_levels k h⟩

theorem requested_specW {R d : Nat} {t2 : Tree} (l : List String) (hl : ∀ x ∈ l, ∃ i ∈ t2.atLevel d, i.id = x)
    (h : MidW R d (· = .fresh) t2) :
    (requested t2 l d).anyPending = false ∨
      (MidW R d (fun s => s = .preProcessed ∨ s = .seen) (requested t2 l d) ∧ (requested t2 l d).atLevel d ≠ []) := by
  have h3 := h.setStatuses l .seen false hl (h.toMid.seen l)
  rcases requested_cases t2 l d with ⟨hemp, e⟩ | ⟨hne, e⟩ <;> rw [e]
  · refine Or.inl (setRoot_noPending (Or.inl rfl) (fun n => h3.pend.none (fun i hi => ?_) (n + 1)))
    -- a node of the working level is Fresh or Seen, and no Fresh one is left
    rcases h3.lev i hi with hs | hs
    · exact absurd (beq_iff_eq.2 hs) (List.filter_eq_nil_iff.1 hemp i hi)
    · rw [hs]; rfl
  · refine Or.inr ⟨h3.setStatuses _ .preProcessed true ids_filter_sub h3.toMid.requests, ?_⟩
    rw [Tree.atLevel_setStatuses, Ne, List.map_eq_nil_iff]
    exact fun hnil => hne (by rw [hnil]; rfl)

/-- **which tree `preprocess` returns**, with the working path as well: below the seed the first loop never stops, since a
rejected child is removed (`scan_flag_none`) -/
theorem preprocess_treeW (S : SF) (I : IF) (hg : (S.preSeencheckGuard == "always") = false) (cfg : Cfg)
    (norm : String → Option NormRes) (seen : Seen) {R d : Nat} {t : Tree} (h : Start R d t) (hw : t.wp d = true) :
    let sc := scan cfg norm t (t.atLevel d)
    let t1 := (t.setNorm sc.2.1).prune sc.1
    MidW R d (· = .fresh) t1 ∧
      ((∃ l, (∀ x ∈ l, ∃ i ∈ (dedupe I t1).atLevel d, i.id = x) ∧ (preprocess S I cfg norm seen t).1 = requested (dedupe I t1) l d) ∨
       (d = 0 ∧ ∃ st, (st = .completed ∨ st = .failed) ∧ (preprocess S I cfg norm seen t).1 = setRoot t1 st)) := by
  refine ⟨⟨(h.toMid.setNorm _).prune _, Tree.wp_prune _ d _ (by rw [Tree.wp_setNorm]; exact hw)⟩, ?_⟩
  obtain ⟨_, hc⟩ := preprocess_tree S I hg cfg norm seen t (by rw [h.depth]; exact h.fresh)
  rw [h.depth] at hc
  rcases hc with ⟨_, ht⟩ | ⟨st, hst, hf, e⟩
  · exact Or.inl ht
  · cases d with
    | zero => exact Or.inr ⟨rfl, st, hst, e⟩
    | succ d' =>
      rw [scan_flag_none cfg norm t _ (fun i hi => ⟨h.fresh i hi, Tree.parentStatus_par t h.ids d' hw i hi⟩)] at hf
      cases hf

theorem pre_specW (S : SF) (I : IF) (hI : okSets I = true) (hg : (S.preSeencheckGuard == "always") = false) (cfg : Cfg)
    (norm : String → Option NormRes) (seen : Seen) {R d : Nat} {t : Tree} (h : Start R d t) (hw : t.wp d = true) :
    let p := preprocess S I cfg norm seen t
    p.1.anyPending = false ∨ (MidW R d (fun s => s = .preProcessed ∨ s = .seen) p.1 ∧ p.1.atLevel d ≠ []) := by
  obtain ⟨h1, ⟨l, hl, e⟩ | ⟨rfl, st, hst, e⟩⟩ := preprocess_treeW S I hg cfg norm seen h hw <;> simp only [e]
  · exact requested_specW l hl (h1.dedupe I hI)
  · -- the seed was rejected: it was the only pending node
    exact Or.inl (setRoot_noPending hst fun n i hi => Bool.eq_false_iff.2 fun hp =>
      absurd (h1.pend _ i hi hp) (Nat.succ_ne_zero n))

theorem arch_specW (srv : String → Option Outcome) {R d : Nat} {t : Tree}
    (h : MidW R d (fun s => s = .preProcessed ∨ s = .seen) t) (hne : t.atLevel d ≠ []) :
    MidW R d (fun s => s = .archived ∨ s = .failed ∨ s = .seen) (archive srv t) ∧ (archive srv t).atLevel d ≠ [] := by
  refine ⟨⟨arch_spec srv h.toMid, by rw [archive, Tree.wp_archive]; exact h.path⟩, ?_⟩
  rwa [archive, Tree.atLevel_archive, Ne, List.map_eq_nil_iff]

theorem post_specW (S : SF) (hS : okPost S = true) (cfg : Cfg) (hdc : cfg.domainsCrawl = false) (ex : String → Extract) {d : Nat} {t : Tree}
    (h : MidW cfg.maxRedirect d (fun s => s = .archived ∨ s = .failed ∨ s = .seen) t) (hne : t.atLevel d ≠ [])
    (hid : (postprocess S cfg ex t).1.idl.Nodup) :
    MidW cfg.maxRedirect (d + 1) (· = .fresh) (postprocess S cfg ex t).1 := by
  refine ⟨post_spec S hS cfg hdc ex h.toMid hid, ?_⟩
  rw [postprocess, maxDepth_eq_of_levels hne h.top]
  exact Tree.wp_post S hS cfg ex d 0 d 0 true t (Nat.zero_add d) h.top h.path

theorem fin_noPending (I : IF) (hI : okSets I = true) {t : Tree} (h : t.anyPending = false) :
    (finisher I t).2 = .finish ∧ (finisher I t).1.anyPending = false := by
  have hnf : t.st ≠ .fresh := fun hf => by
    cases t with
    | node i k => rw [Tree.anyPending, show i.st = .fresh from hf] at h; cases h
  rw [finisher_eq I t hnf, Tree.mark_done I hI t h, Bool.and_false, if_neg Bool.false_ne_true]
  refine ⟨rfl, ?_⟩
  cases hasWork I t.st
  · exact h
  · exact (Tree.mark_pending I hI t).trans h

/-- **finisher.** The seed is let go only with nothing pending in its tree; otherwise it goes round again, one level
deeper, with its working path. -/
theorem fin_specW (I : IF) (hI : okSets I = true) {R d : Nat} {t : Tree} (h : MidW R (d + 1) (· = .fresh) t) :
    ((finisher I t).2 = .finish ∧ (finisher I t).1.anyPending = false) ∨
    ((finisher I t).2 = .feedback ∧ Start R (d + 1) (finisher I t).1 ∧ (finisher I t).1.wp (d + 1) = true) := by
  obtain ⟨hm, hw⟩ := h
  by_cases hemp : t.atLevel (d + 1) = []
  · exact Or.inl (fin_noPending I hI (Tree.anyPending_of_levels t (hm.pend.none (hemp ▸ List.forall_mem_nil _))))
  · -- the seed reaches the new level: it is GotChildren / GotRedirected, and completion marking leaves it work
    obtain ⟨hwm, hwork⟩ := Tree.wp_mark I hI (d + 1) t hm.lev hw
    have hpar : isPar t.st = true := by cases t; exact (Tree.wp_succ_iff.1 hw).1 hemp
    have hfin : finisher I t = (t.mark I, .feedback) := by
      rw [finisher_eq I t (fun hf => by rw [hf] at hpar; cases hpar), isPar_hasWork I hI hpar, hwork hemp]; rfl
    rcases fin_spec I hI hm with hf | ⟨_, hs⟩
    · rw [hfin] at hf; cases hf
    · rw [hfin] at hs ⊢
      exact Or.inr ⟨rfl, hs, hwm⟩

/-- **One pass**: the seed is let go only when nothing in its tree is pending; otherwise its tree is one level deeper, in
start-of-pass shape, with its working path. (No panic: `pass_progress`.) -/
theorem pass_progressW (S : SF) (hS : okPost S = true) (hg : (S.preSeencheckGuard == "always") = false) (I : IF) (hI : okSets I = true)
    (cfg : Cfg) (hdc : cfg.domainsCrawl = false) (o : Oracle) (seen : Seen) {d : Nat} {t : Tree}
    (h : Start cfg.maxRedirect d t) (hw : t.wp d = true) (hid : passIds S I cfg o seen t = true) :
    ((pass S I cfg o seen t).act = .finish ∧ (pass S I cfg o seen t).tree.anyPending = false) ∨
    ((pass S I cfg o seen t).act = .feedback ∧ Start cfg.maxRedirect (d + 1) (pass S I cfg o seen t).tree ∧
      (pass S I cfg o seen t).tree.wp (d + 1) = true) := by
  simp only [pass]
  rcases pre_specW S I hI hg cfg o.norm seen h hw with hc | ⟨hc, hne⟩
  · exact Or.inl (fin_noPending I hI (Tree.post_noPending S cfg o.ex _ _ _ _ _ (Tree.archive_noPending o.srv _ _ _ hc)))
  · obtain ⟨ha, hne'⟩ := arch_specW o.srv hc hne
    exact fin_specW I hI (post_specW S hS cfg hdc o.ex ha hne' (of_decide_eq_true hid))

theorem life_last (S : SF) (I : IF) (cfg : Cfg) (Inv : Nat → Tree → Prop) (Q : Tree → Prop)
    (hpass : ∀ o seen d t, Inv d t → passIds S I cfg o seen t = true →
      ((pass S I cfg o seen t).act = .finish ∧ Q (pass S I cfg o seen t).tree) ∨
      ((pass S I cfg o seen t).act = .feedback ∧ Inv (d + 1) (pass S I cfg o seen t).tree)) (os : List Oracle) :
    ∀ (seen : Seen) (d : Nat) (t : Tree), Inv d t → idsOK S I cfg os seen t = true →
      ∀ t', (life S I cfg os seen t).2 = some t' → Q t' := by
  induction os with
  | nil => exact fun _ _ _ _ _ _ (ht' : none = some _) => nomatch ht'
  | cons o os ih =>
    intro seen d t h hids t' ht'
    obtain ⟨hid, hrest⟩ := idsOK_cons hids
    simp only [life] at ht'
    rcases hpass o seen d t h hid with ⟨hf, hq⟩ | ⟨hf, hinv⟩
    · rw [hf] at ht'
      exact Option.some.inj ht' ▸ hq
    · rw [hf] at ht'
      exact ih _ (d + 1) _ hinv (hrest hf) t' ht'

/-- **The whole life**: the final tree — the one the finisher acknowledges — has nothing pending. -/
theorem life_done (S : SF) (hS : okPost S = true) (hg : (S.preSeencheckGuard == "always") = false) (I : IF) (hI : okSets I = true)
    (cfg : Cfg) (hdc : cfg.domainsCrawl = false) (os : List Oracle) :
    ∀ (seen : Seen) (d : Nat) (t : Tree), Start cfg.maxRedirect d t → t.wp d = true → idsOK S I cfg os seen t = true →
      ∀ t', (life S I cfg os seen t).2 = some t' → t'.anyPending = false :=
  fun seen d t h hw => life_last S I cfg (fun d t => Start cfg.maxRedirect d t ∧ t.wp d = true) (·.anyPending = false)
    (fun o seen _ _ h hid => pass_progressW S hS hg I hI cfg hdc o seen h.1 h.2 hid) os seen d t ⟨h, hw⟩

end Zeno.Model.Life
