import Zeno.Model.Item
/-!
The operations of `pkg/models` on one seed's tree: what the facts must say (`ok`), completion (`nwc` is the shape under which
`CompleteAndCheck` answers exactly), and pruning as a filter on the flattened tree and on its levels. `DedupeItems` is in
`Proofs/Dedupe`, `CheckConsistency` under these operations in `Proofs/Consistency`.
-/
namespace Zeno.Model.Item

def okSets (F : Facts) : Bool :=
  F.noWorkStatuses == ["Completed", "Seen", "Failed"] && F.markableStatuses == ["GotChildren", "GotRedirected"]

def okCheck (F : Facts) : Bool :=
  F.freshParentStatuses == ["GotChildren", "GotRedirected"] &&
  F.withChildrenStatuses == ["GotChildren", "GotRedirected", "Completed", "Failed"] &&
  F.checkOrder == ["childHasVia", "freshHasChildren", "freshBadParent", "redirectedManyChildren", "childrenBadStatus"] &&
  F.redirectedRule && F.freshRule

def okDedupe (F : Facts) : Bool :=
  F.dedupePrefers == "processed" && F.dedupeSkipsSeed && F.dedupeKeyIsCanonical && F.dedupeMarksCompleted &&
  F.dedupeFlattensFirst

def okShapes (F : Facts) : Bool :=
  F.markBottomUp && F.markNeedsAllChildrenDone && F.allDoneUsesHasWork && F.completeShape && F.addChildShape &&
  F.addChildFrom == ["GotRedirected", "GotChildren"] && F.dnrShape &&
  -- the model treats AddChild / RemoveChild as atomic: the whole body runs under the write lock
  F.removeChildAtomic && F.removeFirstById && F.addChildAtomic

def ok (F : Facts) : Bool := okSets F && okCheck F && okDedupe F && okShapes F

theorem ok_sets {F : Facts} (h : ok F = true) : okSets F = true := by
  simp only [ok, Bool.and_eq_true] at h; exact h.1.1.1
theorem ok_check {F : Facts} (h : ok F = true) : okCheck F = true := by
  simp only [ok, Bool.and_eq_true] at h; exact h.1.1.2
theorem ok_dedupe {F : Facts} (h : ok F = true) : okDedupe F = true := by
  simp only [ok, Bool.and_eq_true] at h; exact h.1.2

theorem hasWork_eq (F : Facts) (h : okSets F = true) (s : Status) :
    hasWork F s = !(s == .completed || s == .seen || s == .failed) := by
  simp only [okSets, Bool.and_eq_true, beq_iff_eq] at h
  simp only [hasWork, h.1]
  cases s <;> decide

theorem markable_eq (F : Facts) (h : okSets F = true) (s : Status) :
    F.markableStatuses.contains s.name = (s == .gotChildren || s == .gotRedirected) := by
  simp only [okSets, Bool.and_eq_true, beq_iff_eq] at h
  simp only [h.2]
  cases s <;> decide

/-! ### completion -/

mutual
/-- "no-work closed": a node without work has no pending descendant -/
def Tree.nwc (F : Facts) : Tree → Bool
  | .node i k => (hasWork F i.st || !k.anyPending) && k.nwc F
def Forest.nwc (F : Facts) : Forest → Bool
  | .nil => true
  | .cons t f => t.nwc F && f.nwc F
end

theorem Tree.mark_node (F : Facts) (i : Info) (k : Forest) :
    (Tree.node i k).mark F =
      .node { i with st := if (k.mark F).allDone F && F.markableStatuses.contains i.st.name then .completed else i.st }
        (k.mark F) := by
  simp only [Tree.mark]
  split <;> rfl

theorem Tree.kids_mark (F : Facts) (i : Info) (k : Forest) : ((Tree.node i k).mark F).kids = k.mark F := by
  rw [Tree.mark_node, Tree.kids]

mutual
theorem Tree.mark_pending (F : Facts) (h : okSets F = true) (t : Tree) : (t.mark F).anyPending = t.anyPending := by
  cases t with
  | node i k =>
    -- only GotChildren / GotRedirected become Completed, none of the three is pending
    rw [Tree.mark_node, Tree.anyPending, Tree.anyPending, Forest.mark_pending F h k, markable_eq F h]
    cases (k.mark F).allDone F
    · rfl
    · cases i.st <;> rfl
theorem Forest.mark_pending (F : Facts) (h : okSets F = true) (f : Forest) : (f.mark F).anyPending = f.anyPending := by
  cases f with
  | nil => rfl
  | cons t f =>
    rw [Forest.mark, Forest.anyPending, Forest.anyPending, Tree.mark_pending F h t, Forest.mark_pending F h f]
end

/-- states nothing: the fact the name promises is `Tree.mark_done` -/
theorem Tree.mark_st_nowork_of_not_pending : True := trivial

mutual
theorem Tree.mark_done (F : Facts) (h : okSets F = true) (t : Tree) (hp : t.anyPending = false) :
    hasWork F (t.mark F).st = false := by
  cases t with
  | node i k =>
    simp only [Tree.anyPending, Bool.or_eq_false_iff] at hp
    obtain ⟨hi, hk⟩ := hp
    -- the children end without work, so a markable node is marked; no other non-pending status has work
    simp only [Tree.mark_node, Tree.st, Tree.info, Forest.mark_done F h k hk, markable_eq F h, hasWork_eq F h,
      Bool.true_and]
    revert hi
    cases i.st <;> decide
theorem Forest.mark_done (F : Facts) (h : okSets F = true) (f : Forest) (hp : f.anyPending = false) :
    (f.mark F).allDone F = true := by
  cases f with
  | nil => rfl
  | cons t f =>
    simp only [Forest.anyPending, Bool.or_eq_false_iff] at hp
    rw [Forest.mark, Forest.allDone, Tree.mark_done F h t hp.1, Forest.mark_done F h f hp.2]
    rfl
end

theorem Tree.nowork_not_pending {F : Facts} (h : okSets F = true) {t : Tree} (hw : t.nwc F = true)
    (hn : hasWork F t.st = false) : t.anyPending = false := by
  cases t with
  | node i k =>
    simp only [Tree.st, Tree.info] at hn
    simp only [Tree.nwc, hn, Bool.false_or, Bool.and_eq_true, Bool.not_eq_true'] at hw
    rw [hasWork_eq F h] at hn
    rw [Tree.anyPending, hw.1, Bool.or_false]
    revert hn
    cases i.st <;> decide

theorem Forest.allDone_not_pending {F : Facts} (h : okSets F = true) {f : Forest} (hw : f.nwc F = true)
    (hd : f.allDone F = true) : f.anyPending = false := by
  cases f with
  | nil => rfl
  | cons t f =>
    simp only [Forest.nwc, Forest.allDone, Bool.and_eq_true, Bool.not_eq_true'] at hw hd
    exact Bool.or_eq_false_iff.2 ⟨Tree.nowork_not_pending h hw.1 hd.1, Forest.allDone_not_pending h hw.2 hd.2⟩

mutual
theorem Tree.mark_nwc (F : Facts) (h : okSets F = true) (t : Tree) (hw : t.nwc F = true) :
    (t.mark F).nwc F = true := by
  cases t with
  | node i k =>
    simp only [Tree.nwc, Bool.and_eq_true] at hw
    have hk := Forest.mark_nwc F h k hw.2
    rw [Tree.mark_node, Tree.nwc, hk, Bool.and_true]
    cases hd : (k.mark F).allDone F
    · rw [Forest.mark_pending F h k]
      exact hw.1
    · -- the children are done after marking: none of them is pending
      rw [Forest.allDone_not_pending h hk hd]
      exact Bool.or_true _
theorem Forest.mark_nwc (F : Facts) (h : okSets F = true) (f : Forest) (hw : f.nwc F = true) :
    (f.mark F).nwc F = true := by
  cases f with
  | nil => rfl
  | cons t f =>
    exact Bool.and_eq_true_iff.2 ((Bool.and_eq_true_iff.1 hw).imp (Tree.mark_nwc F h t) (Forest.mark_nwc F h f))
end

/-- `CompleteAndCheck` returns true exactly when no node of the resulting tree is pending. -/
theorem complete_iff (F : Facts) (h : okSets F = true) (t : Tree) (hw : t.nwc F = true) :
    (completeAndCheck F t).2 = true ↔ (completeAndCheck F t).1.anyPending = false := by
  fun_cases completeAndCheck F t
  next hn => exact iff_of_true rfl (Tree.nowork_not_pending h hw ((Bool.not_eq_true' _).mp hn))
  next =>
    rw [Bool.not_eq_true']
    exact ⟨Tree.nowork_not_pending h (Tree.mark_nwc F h t hw),
      fun hp => Tree.mark_done F h t (Tree.mark_pending F h t ▸ hp)⟩

theorem complete_nwc (F : Facts) (h : okSets F = true) (t : Tree) (hw : t.nwc F = true) :
    (completeAndCheck F t).1.nwc F = true := by
  fun_cases completeAndCheck F t
  · exact hw
  · exact Tree.mark_nwc F h t hw

/-! ### pruning, on the flattened tree and level by level -/

theorem nodup_map_on {α β} (f : α → β) (l : List α) (hn : l.Nodup) (hinj : ∀ x ∈ l, ∀ y ∈ l, f x = f y → x = y) :
    (l.map f).Nodup :=
  List.pairwise_map.2 (hn.imp_of_mem fun hx hy hne he => hne (hinj _ hx _ hy he))

theorem nodup_of_map {α β} (f : α → β) (l : List α) (h : (l.map f).Nodup) : l.Nodup :=
  List.Pairwise.of_map f (fun _ _ hne he => hne (congrArg f he)) h

theorem eq_of_nodup_map {α β} (f : α → β) (l : List α) (h : (l.map f).Nodup) (a b : α) (ha : a ∈ l) (hb : b ∈ l)
    (hf : f a = f b) : a = b := by
  have hp : l.Pairwise (fun x y => f x = f y → x = y) := (List.pairwise_map.1 h).imp fun hne he => absurd he hne
  exact hp.forall_of_forall_of_flip (fun _ _ _ => rfl) (hp.imp fun hxy he => (hxy he.symm).symm) ha hb hf

def keepP (rm : List String) (i : Info) : Bool := !rm.contains i.id

theorem keepP_iff {rm : List String} {i : Info} : keepP rm i = true ↔ i.id ∉ rm := by
  simp [keepP]

theorem Forest.prune_cons (rm : List String) (t : Tree) (f : Forest) :
    (Forest.cons t f).prune rm = if keepP rm t.info then .cons (t.prune rm) (f.prune rm) else f.prune rm := by
  rw [Forest.prune, keepP]
  cases rm.contains t.info.id <;> rfl

mutual
theorem Tree.flatten_prune (rm : List String) (t : Tree) (hk : keepP rm t.info = true) :
    (t.prune rm).flatten.Sublist (t.flatten.filter (keepP rm)) := by
  cases t with
  | node i k =>
    rw [Tree.info] at hk
    rw [Tree.prune, Tree.flatten, Tree.flatten, List.filter_cons_of_pos hk]
    exact (Forest.flatten_prune rm k).cons_cons i
theorem Forest.flatten_prune (rm : List String) (f : Forest) :
    (f.prune rm).flatten.Sublist (f.flatten.filter (keepP rm)) := by
  cases f with
  | nil => exact .slnil
  | cons t f =>
    rw [Forest.prune_cons, Forest.flatten, List.filter_append]
    split
    · exact (Tree.flatten_prune rm t ‹_›).append (Forest.flatten_prune rm f)
    · exact (Forest.flatten_prune rm f).trans (List.sublist_append_right _ _)
end

mutual
/-- level `n + 1`: `prune` keeps the root -/
theorem Tree.atLevel_prune_sub_filter (rm : List String) (t : Tree) (n : Nat) :
    ((t.prune rm).atLevel (n + 1)).Sublist ((t.atLevel (n + 1)).filter (keepP rm)) := by
  cases t with
  | node _ k => exact Forest.atLevel_prune_sub_filter rm k n
theorem Forest.atLevel_prune_sub_filter (rm : List String) (f : Forest) (n : Nat) :
    ((f.prune rm).atLevel n).Sublist ((f.atLevel n).filter (keepP rm)) := by
  cases f with
  | nil => exact .slnil
  | cons t f =>
    rw [Forest.prune_cons, Forest.atLevel, List.filter_append]
    split
    · refine List.Sublist.append ?_ (Forest.atLevel_prune_sub_filter rm f n)
      match t, n with
      | .node i k, 0 => rw [Tree.prune, Tree.atLevel, Tree.atLevel, List.filter_cons_of_pos ‹_›]; exact .refl _
      | t, m + 1 => exact Tree.atLevel_prune_sub_filter rm t m
    · exact (Forest.atLevel_prune_sub_filter rm f n).trans (List.sublist_append_right _ _)
end

theorem Forest.atLevel_prune_sublist (rm : List String) (f : Forest) (n : Nat) : ((f.prune rm).atLevel n).Sublist (f.atLevel n) :=
  (Forest.atLevel_prune_sub_filter rm f n).trans List.filter_sublist

theorem Tree.atLevel_prune_sublist (rm : List String) (t : Tree) (n : Nat) : ((t.prune rm).atLevel n).Sublist (t.atLevel n) := by
  match t, n with
  | .node i k, 0 => exact .refl _
  | .node i k, n + 1 => exact Forest.atLevel_prune_sublist rm k n

mutual
/-- fresh nodes have no children (part of what `CheckConsistency` demands) -/
def Tree.freshLeaf : Tree → Bool
  | .node i k => (i.st != .fresh || (match k with | .nil => true | .cons _ _ => false)) && k.freshLeaf
def Forest.freshLeaf : Forest → Bool
  | .nil => true
  | .cons t f => t.freshLeaf && f.freshLeaf
end

mutual
theorem Tree.flatten_prune_eq (rm : List String) (t : Tree) (hk : keepP rm t.info = true)
    (hleaf : ∀ i ∈ t.flatten, rm.contains i.id = true → i.st = .fresh) (hfl : t.freshLeaf = true) :
    (t.prune rm).flatten = t.flatten.filter (keepP rm) := by
  cases t with
  | node i k =>
    rw [Tree.info] at hk
    simp only [Tree.freshLeaf, Bool.and_eq_true] at hfl
    rw [Tree.prune, Tree.flatten, Tree.flatten, List.filter_cons_of_pos hk,
      Forest.flatten_prune_eq rm k (fun j hj => hleaf j (List.mem_cons_of_mem _ hj)) hfl.2]
theorem Forest.flatten_prune_eq (rm : List String) (f : Forest)
    (hleaf : ∀ i ∈ f.flatten, rm.contains i.id = true → i.st = .fresh) (hfl : f.freshLeaf = true) :
    (f.prune rm).flatten = f.flatten.filter (keepP rm) := by
  cases f with
  | nil => rfl
  | cons t f =>
    obtain ⟨i, k⟩ := t
    rw [Forest.flatten, List.forall_mem_append] at hleaf
    simp only [Forest.freshLeaf, Bool.and_eq_true] at hfl
    rw [Forest.prune_cons, Forest.flatten, List.filter_append, ← Forest.flatten_prune_eq rm f hleaf.2 hfl.2]
    split
    · rw [Forest.flatten, Tree.flatten_prune_eq rm (.node i k) ‹_› hleaf.1 hfl.1]
    · -- a removed node is fresh, hence a leaf: its flattening is itself, and it is filtered out
      rename_i hk
      rw [Tree.info] at hk
      have hi : i.st = .fresh := hleaf.1 i List.mem_cons_self (by simpa [keepP] using hk)
      cases k with
      | cons _ _ => simp [Tree.freshLeaf, hi] at hfl
      | nil => simp [Tree.flatten, Forest.flatten, hk]
end

mutual
theorem Tree.flatten_mark (F : Facts) (t : Tree) : (t.mark F).flatten.map (·.url) = t.flatten.map (·.url) := by
  cases t with
  | node i k => rw [Tree.mark_node, Tree.flatten, Tree.flatten, List.map_cons, List.map_cons, Forest.flatten_mark F k]
theorem Forest.flatten_mark (F : Facts) (f : Forest) : (f.mark F).flatten.map (·.url) = f.flatten.map (·.url) := by
  cases f with
  | nil => rfl
  | cons t f =>
    rw [Forest.mark, Forest.flatten, Forest.flatten, List.map_append, List.map_append, Tree.flatten_mark F t,
      Forest.flatten_mark F f]
end

end Zeno.Model.Item
