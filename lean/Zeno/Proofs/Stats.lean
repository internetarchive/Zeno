import Zeno.Model.Stats
import Zeno.Proofs.ListIdx
/-!
Adds commute: a cell written only by atomic adds ends with its initial value plus all adds, under every interleaving. The
invariant is `cell + pending adds` (mod 2^64); `addOnlyT` is the same condition on a method's template, so that it is decided
once for all arguments.
-/
namespace Zeno.Model.Stats

def pending (c : String) (ts : List Thread) : Nat := (ts.map (fun t => addsTo c t.code)).sum

def allAddOnly (c : String) (ts : List Thread) : Bool := ts.all (fun t => addOnly c t.code)

theorem all_set {α} {p : α → Bool} {l : List α} {i : Nat} {b : α} (hl : l.all p = true) (hb : p b = true) :
    (l.set i b).all p = true :=
  List.all_eq_true.mpr fun _ hx => (List.mem_or_eq_of_mem_set hx).elim (List.all_eq_true.mp hl _) (· ▸ hb)

theorem upd_apply (m : Cells) (x : String) (v : Nat) (c : String) : (m.upd x v) c = if x = c then v else m c := by
  simp only [Cells.upd, eq_comm]

theorem exec_cell {c : String} {cells : Cells} {reg : Nat} {ins : Instr} (h : (!ins.writes c || ins.isAddTo c) = true) :
    (exec cells reg ins).1 c % M = (cells c + ins.addTo c) % M := by
  fun_cases exec cells reg ins <;>
    simp only [Instr.writes, Instr.isAddTo, Instr.addTo, upd_apply, Bool.not_false, Bool.or_false,
      Bool.not_eq_true', beq_eq_false_iff_ne, beq_iff_eq, ne_eq, Nat.add_zero] at h ⊢
  -- `add x v`, to `c` or to another cell; then the other writes, which `h` says are to another cell
  · split <;> simp only [*, Nat.mod_mod, Nat.add_zero]
  all_goals rw [if_neg h]

theorem step_inv (c : String) (s : St) (i : Nat) (h : allAddOnly c s.threads = true) :
    ((step s i).cells c + pending c (step s i).threads) % M = (s.cells c + pending c s.threads) % M ∧
    allAddOnly c (step s i).threads = true := by
  unfold step
  split
  next ins rest reg hg =>
    have hao := List.all_eq_true.mp h _ (List.mem_of_getElem? hg)
    simp only [addOnly, List.all_cons, Bool.and_eq_true] at hao
    -- thread `i` taken out of the sum of pending adds: before the step (`h1`) and after it, whatever its register holds (`h2`)
    have h1 := ((List.perm_cons_eraseIdx hg).map fun t => addsTo c t.code).sum_nat
    have h2 := fun r => ((List.set_perm_cons_eraseIdx ⟨rest, r⟩ hg).map fun t => addsTo c t.code).sum_nat
    refine ⟨?_, all_set h hao.2⟩
    simp only [pending, addsTo, List.map_cons, List.sum_cons] at h1 h2 ⊢
    rw [Nat.add_mod, exec_cell hao.1, ← Nat.add_mod, h1, h2]
    simp +arith only
  next => exact ⟨rfl, h⟩

theorem run_inv (c : String) (s : St) (sched : List Nat) (h : allAddOnly c s.threads = true) :
    ((run s sched).cells c + pending c (run s sched).threads) % M = (s.cells c + pending c s.threads) % M ∧
    allAddOnly c (run s sched).threads = true := by
  induction sched generalizing s with
  | nil => exact ⟨rfl, h⟩
  | cons i is ih =>
    have h1 := step_inv c s i h
    have h2 := ih (step s i) h1.2
    exact ⟨h2.1.trans h1.1, h2.2⟩

theorem pending_finished {c : String} {ts : List Thread} (h : ts.all (fun t => t.code.isEmpty) = true) :
    pending c ts = 0 := by
  refine List.sum_eq_zero_iff_forall_eq_nat.mpr (List.forall_mem_map.mpr fun t ht => ?_)
  rw [List.isEmpty_iff.mp (List.all_eq_true.mp h t ht)]
  rfl

/-- **Adds commute.** If every write to cell `c` in every thread is an atomic add, then under every
schedule that runs all threads to completion the cell ends at its initial value plus the sum of all
adds (modulo 2^64) — no lost update, whatever the interleaving and the number of threads. -/
theorem add_only_exact {c : String} {s : St} {sched : List Nat} (h : allAddOnly c s.threads = true)
    (hf : (run s sched).finished = true) :
    (run s sched).cells c % M = (s.cells c + pending c s.threads) % M := by
  have := (run_inv c s sched h).1
  rwa [pending_finished hf, Nat.add_zero] at this

/-- … and at *every* intermediate point the cell equals initial + the adds executed so far. -/
theorem add_only_progress (c : String) (s : St) (sched : List Nat) (h : allAddOnly c s.threads = true) :
    ((run s sched).cells c + pending c (run s sched).threads) % M = (s.cells c + pending c s.threads) % M :=
  (run_inv c s sched h).1

/-! ### from templates to instantiated code -/

def TInstr.writesT (c : String) : TInstr → Bool
  | .add x _ | .set x _ | .setLocal x | .swap x _ | .rawWrite x => x == c
  | _ => false

def TInstr.isAddT (c : String) : TInstr → Bool
  | .add x _ => x == c
  | _ => false

/-- template-level: every write to `c` is an atomic add -/
def addOnlyT (c : String) (prog : List TInstr) : Bool := prog.all (fun i => !TInstr.writesT c i || TInstr.isAddT c i)

theorem writes_inst1 (c : String) (arg : Nat) (i : TInstr) : (inst1 arg i).writes c = TInstr.writesT c i := by
  cases i <;> rfl
theorem isAddTo_inst1 (c : String) (arg : Nat) (i : TInstr) : (inst1 arg i).isAddTo c = TInstr.isAddT c i := by
  cases i <;> rfl

theorem addOnly_inst (c : String) (arg : Nat) (prog : List TInstr) : addOnly c (inst arg prog) = addOnlyT c prog := by
  simp only [addOnly, addOnlyT, inst, List.all_map, Function.comp_def, writes_inst1, isAddTo_inst1]

theorem addsTo_flatMap {α} (c : String) (code : α → List Instr) (calls : List α) :
    addsTo c (calls.flatMap code) = (calls.map (fun x => addsTo c (code x))).sum := by
  induction calls with
  | nil => rfl
  | cons x xs ih => rw [List.flatMap_cons, addsTo, List.map_append, List.sum_append]; exact congrArg _ ih

theorem allAddOnly_threadsOf {α} {c : String} {code : α → List Instr} (ws : List (List α))
    (h : ∀ x, addOnly c (code x) = true) : allAddOnly c (threadsOf code ws) = true := by
  simp only [allAddOnly, threadsOf, List.all_map, List.all_eq_true, Function.comp_apply, addOnly, List.all_flatMap]
  exact fun _ _ x _ => List.all_eq_true.mp (h x)

theorem pending_threadsOf {α} (c : String) (code : α → List Instr) (ws : List (List α)) :
    pending c (threadsOf code ws) = (ws.map (fun calls => (calls.map (fun x => addsTo c (code x))).sum)).sum := by
  simp only [pending, threadsOf, List.map_map, Function.comp_def, addsTo_flatMap]

theorem calls_exact {α} {c : String} {code : α → List Instr} {ws : List (List α)} {init : Cells} {sched : List Nat}
    (h : ∀ x, addOnly c (code x) = true)
    (hf : (run { cells := init, threads := threadsOf code ws } sched).finished = true) :
    (run { cells := init, threads := threadsOf code ws } sched).cells c % M =
      (init c + (ws.map (fun calls => (calls.map (fun x => addsTo c (code x))).sum)).sum) % M := by
  rw [← pending_threadsOf]
  exact add_only_exact (allAddOnly_threadsOf ws h) hf

end Zeno.Model.Stats
