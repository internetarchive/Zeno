import Zeno.Model.Html
/-!
Which attribute values `htmlAssets` / `htmlOutlinks` contain, one theorem per tag and attribute. `htmlAssets` is nine sections
appended (style attributes, a, img, video/audio, style, script, link, meta, source): each theorem steps to its section, counted
from the end, and then to the attribute inside it.
-/
namespace Zeno.Model.Html

variable {H : HF} {cfg : Cfg} {els : List El} {e : El} {t v : String}

theorem mem_optL {o : Option String} (h : o = some v) : v ∈ optL o := h ▸ List.mem_cons_self

theorem mem_tagSection {f : El → List String} (he : e ∈ els) (ht : e.tag = t) (hen : enabled cfg t = true) (hv : v ∈ f e) :
    v ∈ (if enabled cfg t then (els.filter (·.tag == t)).flatMap f else []) := by
  rw [if_pos hen]
  exact List.mem_flatMap.2 ⟨e, List.mem_filter.2 ⟨he, beq_iff_eq.2 ht⟩, hv⟩

theorem img_attr (he : e ∈ els) (ht : e.tag = "img") (hen : enabled cfg "img" = true)
    {a : String} (ha : a = "src" ∨ a = "data-src" ∨ a = "data-lazy-src") (hv : e.attr a = some v) : v ∈ htmlAssets H cfg els := by
  iterate 6 apply List.mem_append_left
  refine List.mem_append_right _ (mem_tagSection he ht hen ?_)
  simp only [List.mem_append]
  rcases ha with rfl | rfl | rfl
  · exact .inl (.inl (.inl (.inl (mem_optL hv))))
  · exact .inl (.inl (.inl (.inr (mem_optL hv))))
  · exact .inl (.inl (.inr (mem_optL hv)))

theorem img_srcset (he : e ∈ els) (ht : e.tag = "img") (hen : enabled cfg "img" = true)
    {a : String} (ha : a = "srcset" ∨ a = "data-srcset") (hv : e.attr a = some v) :
    ∀ u ∈ srcsetURLs v, u ∈ htmlAssets H cfg els := by
  intro u hu
  iterate 6 apply List.mem_append_left
  refine List.mem_append_right _ (mem_tagSection he ht hen ?_)
  rcases ha with rfl | rfl
  · exact List.mem_append_right _ (hv ▸ hu)
  · exact List.mem_append_left _ (List.mem_append_right _ (hv ▸ hu))

theorem media_src (he : e ∈ els) (ht : e.tag = t) (htt : t = "video" ∨ t = "audio") (hen : enabled cfg t = true)
    (hv : e.attr "src" = some v) : v ∈ htmlAssets H cfg els := by
  iterate 5 apply List.mem_append_left
  refine List.mem_append_right _ (List.mem_flatMap.2 ⟨e, List.mem_filter.2 ⟨he, ?_⟩, mem_optL hv⟩)
  rcases htt with rfl | rfl <;> simp [ht, hen]

theorem style_element (he : e ∈ els) (ht : e.tag = "style") (hen : enabled cfg "style" = true)
    {m : List Char} (hm : m ∈ urlFuncs e.text.length e.text.toList) (hwp : startsWith (styleURL H m) "#wp-" = false) :
    styleURL H m ∈ htmlAssets H cfg els := by
  iterate 4 apply List.mem_append_left
  exact List.mem_append_right _ (mem_tagSection he ht hen (List.mem_filter.2 ⟨List.mem_map_of_mem hm, congrArg not hwp⟩))

theorem script_src (he : e ∈ els) (ht : e.tag = "script") (hen : enabled cfg "script" = true) (hv : e.attr "src" = some v) :
    v ∈ htmlAssets H cfg els := by
  iterate 3 apply List.mem_append_left
  exact List.mem_append_right _ (mem_tagSection he ht hen (List.mem_append_left _ (mem_optL hv)))

theorem link_href (he : e ∈ els) (ht : e.tag = "link") (hen : enabled cfg "link" = true)
    (hrel : cfg.captureAlternate = true ∨ e.attr "rel" ≠ some "alternate") (hv : e.attr "href" = some v) :
    v ∈ htmlAssets H cfg els := by
  iterate 2 apply List.mem_append_left
  refine List.mem_append_right _ (mem_tagSection he ht hen ?_)
  rw [if_neg (by rcases hrel with h | h <;> simp [h])]
  exact mem_optL hv

theorem source_src (he : e ∈ els) (ht : e.tag = "source") (hen : enabled cfg "source" = true) (hv : e.attr "src" = some v) :
    v ∈ htmlAssets H cfg els :=
  List.mem_append_right _ (mem_tagSection he ht hen (List.mem_append_left _ (List.mem_append_left _ (mem_optL hv))))

theorem source_srcset (he : e ∈ els) (ht : e.tag = "source") (hen : enabled cfg "source" = true)
    {a : String} (ha : a = "srcset" ∨ a = "data-srcset") (hv : e.attr a = some v) :
    ∀ u ∈ srcsetURLs v, u ∈ htmlAssets H cfg els := by
  intro u hu
  refine List.mem_append_right _ (mem_tagSection he ht hen ?_)
  rcases ha with rfl | rfl
  · exact List.mem_append_left _ (List.mem_append_right _ (hv ▸ hu))
  · exact List.mem_append_right _ (hv ▸ hu)

theorem style_attr (he : e ∈ els) (hv : v ∈ styleAttrAssets e) : v ∈ htmlAssets H cfg els := by
  iterate 8 apply List.mem_append_left
  exact List.mem_flatMap.2 ⟨e, he, List.mem_append_left _ hv⟩

theorem anchor_href (he : e ∈ els) (ht : e.tag = "a") (hen : enabled cfg "a" = true) (hv : e.attr "href" = some v) (hne : v ≠ "") :
    v ∈ htmlOutlinks cfg els := by
  refine mem_tagSection he ht hen (List.mem_flatMap.2 ⟨"href", .head _, ?_⟩)
  simp [hv, hne]

theorem styleURL_keeps (h : H.styleSchemeRelative = "keeps") (m : List Char) : styleURL H m = String.ofList (stripQuotes m) := by
  simp [styleURL, h]

end Zeno.Model.Html
