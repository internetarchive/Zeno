import Zeno.Model.Consumer
/-! The consumer loop of the local queue in closed form. -/
namespace Zeno.Model.Consumer

def okConsumer (F : Facts) : Bool :=
  F.lqDiscardFlagScope == "perURL" && F.lqUnparsableGoesToFinish && F.lqParsableGoesToReactor && F.lqConsumeFields

/-- with a per-URL flag the fate of a URL depends on that URL alone -/
theorem consume_eq (F : Facts) (hF : okConsumer F = true) (flag : Bool) (urls : List Claimed) :
    consume F flag urls = urls.map (fun u => (u.id, if u.parsable then Fate.inserted else Fate.finishedUnfetched)) := by
  simp only [okConsumer, Bool.and_eq_true, beq_iff_eq] at hF
  induction urls generalizing flag with
  | nil => rfl
  | cons u rest ih =>
    simp only [consume, hF.1.1.1, hF.1.1.2, hF.1.2, beq_self_eq_true, if_true, Bool.false_or, Bool.and_true, List.map_cons, ih]
    cases u.parsable <;> rfl

end Zeno.Model.Consumer
