import Zeno.Model.RateProg
import Zeno.Proofs.ExecAttr
/-!
The interpreter of `Model/RateProg.lean` as a machine that runs one statement at a time: `o.seq callee p` carries on with block
`p` from outcome `o`. `simp only [exec_eqs]` turns a translated method into the tree of `if`s over the tests the source makes;
the rest of the block is data to `seq`, never a function `simp` would look into.
-/
namespace Zeno.Model.RateProg
open Zeno.Model.RateLimiter

def Out.seq (callee : TB → Rat → Option TB) (o : Out) (p : ABlock) : Out :=
  match o with
  | .fell e => p.exec callee e
  | o => o

def Out.res : Out → Option (TB × Bool)
  | .fell e => some (e.b, false)
  | .returned e => some (e.b, true)
  | .bad => none

variable (callee : TB → Rat → Option TB) (e : Env)

theorem seq_cons (s : AStmt) (rest : ABlock) :
    (Out.fell e).seq callee (.cons s rest) = (s.exec callee e).seq callee rest := by
  unfold Out.seq
  rfl
theorem seq_nil : (Out.fell e).seq callee .nil = .fell e := by
  unfold Out.seq
  rfl
theorem seq_returned (p : ABlock) : (Out.returned e).seq callee p = .returned e := rfl
theorem seq_bad (p : ABlock) : Out.bad.seq callee p = .bad := rfl
theorem seq_ite (c : Prop) [h : Decidable c] (a b : Out) (p : ABlock) :
    (if c then a else b).seq callee p = if c then a.seq callee p else b.seq callee p := by cases h <;> rfl

theorem res_fell : (Out.fell e).res = some (e.b, false) := rfl
theorem res_returned : (Out.returned e).res = some (e.b, true) := rfl
theorem res_bad : Out.bad.res = none := rfl
theorem res_ite (c : Prop) [Decidable c] (a b : Out) : (if c then a else b).res = if c then a.res else b.res :=
  apply_ite Out.res c a b

theorem runMethod_eq (p : ABlock) (b : TB) (now : Rat) (ps : Nat → Option Int) :
    runMethod callee p b now ps =
      ((Out.fell { b := b, now := now, params := ps, locals := fun _ => none }).seq callee p).res := by
  unfold runMethod Out.res; rfl

theorem exec_ite (c : CExp) (t f : ABlock) :
    (AStmt.ite c t f).exec callee e =
      (c.eval e).elim .bad fun b => if b then (Out.fell e).seq callee t else (Out.fell e).seq callee f := by
  rw [AStmt.exec]
  cases c.eval e with
  | none => rfl
  | some b => cases b <;> rfl

theorem exec_setI_fails (x : IExp) :
    (AStmt.setI .failureCount x).exec callee e =
      match x.eval e with
      | some v => if 0 ≤ v then .fell { e with b := { e.b with fails := v.toNat } } else .bad
      | none => .bad := by
  rw [AStmt.exec]
  cases x.eval e with
  | none => rfl
  | some v => by_cases h : 0 ≤ v <;> simp only [setI, h, if_true, if_false]

theorem setLocal_locals (x : Nat) (v : Rat) (y : Nat) :
    (setLocal e x v).locals y = if y = x then some v else e.locals y := rfl
theorem setLocal_b (x : Nat) (v : Rat) : (setLocal e x v).b = e.b := rfl
theorem setLocal_now (x : Nat) (v : Rat) : (setLocal e x v).now = e.now := rfl
theorem setLocal_params (x : Nat) (v : Rat) : (setLocal e x v).params = e.params := rfl
theorem setLocal_result (x : Nat) (v : Rat) : (setLocal e x v).result = e.result := rfl

theorem ite_some {α} (c : Prop) [h : Decidable c] (x y : α) : (if c then some x else some y) = some (if c then x else y) := by
  cases h <;> rfl
theorem ite_setLocal (c : Prop) [h : Decidable c] (x : Nat) (v w : Rat) :
    (if c then Out.fell (setLocal e x v) else Out.fell (setLocal e x w)) = Out.fell (setLocal e x (if c then v else w)) := by
  cases h <;> rfl
/-- a value that is undefined under condition `c` (a conversion out of range, a negative exponent) -/
theorem ite_none_bind {α β} (c : Prop) [h : Decidable c] (v : α) (g : α → Option β) :
    (if c then none else some v).bind g = if c then none else g v := by cases h <;> rfl
theorem ite_none_elim {α β} (c : Prop) [h : Decidable c] (v : α) (x : β) (g : α → β) :
    (if c then none else some v).elim x g = if c then x else g v := by cases h <;> rfl

/-- the program counts failures in `Int`, the model in `Nat` -/
theorem pred_nonneg (n : Nat) : 0 ≤ (n : Int) - 1 ↔ 0 < n := Int.sub_nonneg.trans (Int.ofNat_le (m := 1))
theorem toNat_pred (n : Nat) : ((n : Int) - 1).toNat = n - 1 := Int.toNat_sub n 1
theorem succ_nonneg (n : Nat) : 0 ≤ (n : Int) + 1 := Int.natCast_nonneg (n + 1)
theorem toNat_succ (n : Nat) : ((n : Int) + 1).toNat = n + 1 := rfl

/-! `exec_ite` and `exec_setI_fails` go before the interpreter's own equation for these statements (`↓`), which would leave a
`match` on the test. -/
attribute [exec_eqs] runMethod_eq seq_cons seq_nil seq_returned seq_bad seq_ite
  AStmt.exec RExp.eval IExp.eval CExp.eval Cmp.eval getF setF getI setI
  setLocal_locals setLocal_b setLocal_now setLocal_params setLocal_result
  res_fell res_returned res_bad res_ite bind pure Option.bind_some Option.map_some
  decide_eq_true_eq
  ite_some ite_setLocal ite_none_bind ite_none_elim Option.elim_some Option.elim_none Bool.if_true_left Bool.or_eq_true
  Int.natCast_nonneg Int.toNat_natCast pred_nonneg toNat_pred succ_nonneg toNat_succ Nat.zero_lt_succ Nat.add_sub_cancel
attribute [exec_eqs ↓] exec_ite exec_setI_fails

end Zeno.Model.RateProg
