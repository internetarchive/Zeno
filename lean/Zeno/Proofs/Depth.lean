import Zeno.Proofs.Stages
/-!
The asset-depth bound as an invariant of whole trees: every node that still has something pending in its subtree sits at
most three levels below the page (redirections not counted). Subtrees with pending work only, because completion marking
turns a finished `GotRedirected` node into `Completed`, which shifts the labels of its finished descendants by one;
nothing below a finished node is ever fetched again.
-/
namespace Zeno.Model.Stages
open Zeno.Model.Item

mutual
def _root_.Zeno.Model.Item.Tree.levelsOK (pdnr : Int) (isSeed : Bool) : Tree → Bool
  | .node i k => (!(i.st.pending || k.anyPending) || decide (nodeDnr isSeed i.st pdnr ≤ 3)) && k.levelsOK (nodeDnr isSeed i.st pdnr)
def _root_.Zeno.Model.Item.Forest.levelsOK (pdnr : Int) : Forest → Bool
  | .nil => true
  | .cons t f => t.levelsOK pdnr false && f.levelsOK pdnr
end

theorem Tree.levelsOK_node (p : Int) (s : Bool) (i : Info) (k : Forest) :
    (Tree.node i k).levelsOK p s = true ↔
      ((i.st.pending = false ∧ k.anyPending = false) ∨ nodeDnr s i.st p ≤ 3) ∧ k.levelsOK (nodeDnr s i.st p) = true := by
  simp only [Tree.levelsOK, Bool.and_eq_true, Bool.or_eq_true, Bool.not_eq_true', Bool.or_eq_false_iff, decide_eq_true_eq]

theorem nodeDnr_mono (s : Bool) (st : Status) {p p' : Int} (h : p' ≤ p) : nodeDnr s st p' ≤ nodeDnr s st p := by
  unfold nodeDnr
  cases s
  · cases (st == .gotRedirected)
    · exact Int.add_le_add_right h 1
    · exact h
  · exact Int.le_refl _

/-- a redirected node does not count: one level above where any other status would put it -/
theorem nodeDnr_status (s : Bool) (st st' : Status) (p : Int) (h : st ≠ .gotRedirected) :
    nodeDnr s st' p ≤ nodeDnr s st p ∧ (st' = .gotRedirected → nodeDnr s st' p + 1 = nodeDnr s st p) ∧
      (st' ≠ .gotRedirected → nodeDnr s st' p = nodeDnr s st p) := by
  cases s <;> by_cases h' : st' = .gotRedirected <;> simp +arith [nodeDnr, h, h']

theorem nodeDnr_congr (s : Bool) (st st' : Status) (p : Int) (h : st' = .gotRedirected ↔ st = .gotRedirected) :
    nodeDnr s st' p = nodeDnr s st p := by
  simp only [nodeDnr, beq_iff_eq, h]

mutual
theorem Tree.levelsOK_mono (p p' : Int) (h : p' ≤ p) (s : Bool) (t : Tree) (ht : t.levelsOK p s = true) : t.levelsOK p' s = true := by
  cases t with
  | node i k =>
    rw [Tree.levelsOK_node] at ht ⊢
    have hm := nodeDnr_mono s i.st h
    exact ⟨ht.1.imp_right (Int.le_trans hm), Forest.levelsOK_mono _ _ hm k ht.2⟩
theorem Forest.levelsOK_mono (p p' : Int) (h : p' ≤ p) (f : Forest) (hf : f.levelsOK p = true) : f.levelsOK p' = true := by
  cases f with
  | nil => rfl
  | cons t f =>
    exact Bool.and_eq_true_iff.2 ((Bool.and_eq_true_iff.1 hf).imp (Tree.levelsOK_mono p p' h false t) (Forest.levelsOK_mono p p' h f))
end

theorem Forest.levelsOK_append (p : Int) (a b : Forest) : (a.append b).levelsOK p = (a.levelsOK p && b.levelsOK p) := by
  cases a with
  | nil => rfl
  | cons t f => rw [Forest.append, Forest.levelsOK, Forest.levelsOK, Forest.levelsOK_append p f b, Bool.and_assoc]

theorem Forest.anyPending_append (a b : Forest) : (a.append b).anyPending = (a.anyPending || b.anyPending) := by
  cases a with
  | nil => rfl
  | cons t f => rw [Forest.append, Forest.anyPending, Forest.anyPending, Forest.anyPending_append f b, Bool.or_assoc]

theorem leaves_levelsOK {dnr : Int} {kids : List Info} (h : ∀ c ∈ kids, c.st = .fresh ∧ dnr + 1 ≤ 3) :
    (leaves kids).levelsOK dnr = true := by
  induction kids with
  | nil => rfl
  | cons c cs ih =>
    rw [List.forall_mem_cons] at h
    have e : nodeDnr false c.st dnr = dnr + 1 := by
      rw [h.1.1]
      rfl
    exact Bool.and_eq_true_iff.2 ⟨(Tree.levelsOK_node ..).2 ⟨.inr (e ▸ h.1.2), rfl⟩, ih h.2⟩

/-! ### postprocess -/

mutual
theorem Tree.post_noPending (S : SF) (cfg : Cfg) (ex : String → Extract) (d lvl : Nat) (pdnr : Int) (isSeed : Bool) (t : Tree)
    (h : t.anyPending = false) : (t.post S cfg ex d lvl pdnr isSeed).1.anyPending = false := by
  cases t with
  | node i k =>
    obtain ⟨hi, hk⟩ := Bool.or_eq_false_iff.1 h
    rw [Tree.post_node]
    cases lvl == d
    · exact Bool.or_eq_false_iff.2 ⟨hi, Forest.post_noPending S cfg ex d (lvl + 1) _ k hk⟩
    · cases harch : i.st == .archived
      · exact h
      · -- an Archived node is pending
        rw [beq_iff_eq.1 harch] at hi
        cases hi
theorem Forest.post_noPending (S : SF) (cfg : Cfg) (ex : String → Extract) (d lvl : Nat) (pdnr : Int) (f : Forest)
    (h : f.anyPending = false) : (f.post S cfg ex d lvl pdnr).1.anyPending = false := by
  cases f with
  | nil => rfl
  | cons t f =>
    rw [Forest.post]
    exact Bool.or_eq_false_iff.2 ((Bool.or_eq_false_iff.1 h).imp (Tree.post_noPending S cfg ex d lvl pdnr false t)
      (Forest.post_noPending S cfg ex d lvl pdnr f))
end

mutual
/-- **`postprocess` keeps every subtree with pending work within three levels below the page** (domains-crawl off) -/
theorem Tree.post_levelsOK (S : SF) (hS : okPost S = true) (cfg : Cfg) (hdc : cfg.domainsCrawl = false) (ex : String → Extract)
    (d lvl : Nat) (pdnr : Int) (isSeed : Bool) (t : Tree) (h : t.levelsOK pdnr isSeed = true) :
    (t.post S cfg ex d lvl pdnr isSeed).1.levelsOK pdnr isSeed = true := by
  cases t with
  | node i k =>
    obtain ⟨h1, h2⟩ := (Tree.levelsOK_node ..).1 h
    rw [Tree.post_node]
    cases lvl == d
    · exact (Tree.levelsOK_node ..).2 ⟨h1.imp_left (And.imp_right (Forest.post_noPending S cfg ex d (lvl + 1) _ k)),
        Forest.post_levelsOK S hS cfg hdc ex d (lvl + 1) _ k h2⟩
    · cases harch : i.st == .archived
      · exact h
      · have hst : i.st = .archived := beq_iff_eq.1 harch
        -- an Archived node is pending
        have hd3 : nodeDnr isSeed i.st pdnr ≤ 3 := by simpa [hst, Status.pending] using h1
        have hkids := postAct_kids S hS cfg ex i (nodeDnr isSeed i.st pdnr) k.length
        generalize postAct S cfg ex i (nodeDnr isSeed i.st pdnr) = a at hkids ⊢
        -- a redirect: the node no longer counts, its target takes its place; otherwise the node stays where it was, and
        -- gets new assets only down to depth 2
        obtain ⟨hle, e1, e2⟩ := nodeDnr_status isSeed i.st (a.st k.length) pdnr (by simp [hst])
        simp only [if_true, Tree.levelsOK_node, Forest.levelsOK_append, Bool.and_eq_true]
        refine ⟨Or.inr (Int.le_trans hle hd3), Forest.levelsOK_mono _ _ hle k h2,
          leaves_levelsOK (fun c hc => ⟨(hkids c hc).1, ?_⟩)⟩
        rcases (hkids c hc).2.2.2 with ⟨hg, _⟩ | ⟨hg, _, hh⟩
        · exact e1 hg ▸ hd3
        · exact e2 hg ▸ Int.add_le_add_right (hh hdc) 1
theorem Forest.post_levelsOK (S : SF) (hS : okPost S = true) (cfg : Cfg) (hdc : cfg.domainsCrawl = false) (ex : String → Extract)
    (d lvl : Nat) (pdnr : Int) (f : Forest) (h : f.levelsOK pdnr = true) :
    (f.post S cfg ex d lvl pdnr).1.levelsOK pdnr = true := by
  cases f with
  | nil => rfl
  | cons t f =>
    rw [Forest.post]
    exact Bool.and_eq_true_iff.2 ((Bool.and_eq_true_iff.1 h).imp (Tree.post_levelsOK S hS cfg hdc ex d lvl pdnr false t)
      (Forest.post_levelsOK S hS cfg hdc ex d lvl pdnr f))
end

/-! ### archive -/

theorem archInfo_pending (srv : String → Option Outcome) (b : Bool) (i : Info) :
    (i.st.pending = false → (archInfo srv b i).st.pending = false) ∧ ((archInfo srv b i).st = .gotRedirected ↔ i.st = .gotRedirected) := by
  rcases archInfo_st srv b i with ⟨_, e⟩ | ⟨_, hpp, e⟩
  · rw [e]
    exact ⟨id, Iff.rfl⟩
  · rw [hpp]
    exact ⟨nofun, by rcases e with e | e <;> simp [e]⟩

mutual
theorem Tree.archive_noPending (srv : String → Option Outcome) (d lvl : Nat) (t : Tree) (h : t.anyPending = false) :
    (t.archive srv d lvl).anyPending = false := by
  cases t with
  | node i k =>
    obtain ⟨hi, hk⟩ := Bool.or_eq_false_iff.1 h
    rw [Tree.archive_node]
    cases lvl == d
    · exact Bool.or_eq_false_iff.2 ⟨hi, Forest.archive_noPending srv d (lvl + 1) k hk⟩
    · exact Bool.or_eq_false_iff.2 ⟨(archInfo_pending srv true i).1 hi, hk⟩
theorem Forest.archive_noPending (srv : String → Option Outcome) (d lvl : Nat) (f : Forest) (h : f.anyPending = false) :
    (f.archive srv d lvl).anyPending = false := by
  cases f with
  | nil => rfl
  | cons t f =>
    exact Bool.or_eq_false_iff.2 ((Bool.or_eq_false_iff.1 h).imp (Tree.archive_noPending srv d lvl t) (Forest.archive_noPending srv d lvl f))
end

mutual
theorem Tree.archive_levelsOK (srv : String → Option Outcome) (d lvl : Nat) (pdnr : Int) (isSeed : Bool) (t : Tree)
    (h : t.levelsOK pdnr isSeed = true) : (t.archive srv d lvl).levelsOK pdnr isSeed = true := by
  cases t with
  | node i k =>
    rw [Tree.levelsOK_node] at h
    rw [Tree.archive_node]
    split
    · obtain ⟨hp, hr⟩ := archInfo_pending srv true i
      rw [Tree.levelsOK_node, nodeDnr_congr isSeed i.st _ pdnr hr]
      exact ⟨h.1.imp_left (And.imp_left hp), h.2⟩
    · rw [Tree.levelsOK_node]
      exact ⟨h.1.imp_left (And.imp_right (Forest.archive_noPending srv d (lvl + 1) k)),
        Forest.archive_levelsOK srv d (lvl + 1) _ k h.2⟩
theorem Forest.archive_levelsOK (srv : String → Option Outcome) (d lvl : Nat) (pdnr : Int) (f : Forest)
    (h : f.levelsOK pdnr = true) : (f.archive srv d lvl).levelsOK pdnr = true := by
  cases f with
  | nil => rfl
  | cons t f =>
    exact Bool.and_eq_true_iff.2 ((Bool.and_eq_true_iff.1 h).imp (Tree.archive_levelsOK srv d lvl pdnr false t)
      (Forest.archive_levelsOK srv d lvl pdnr f))
end

theorem seed_levelsOK (i : Info) : (Tree.node i .nil).levelsOK 0 true = true := by
  rw [Tree.levelsOK_node]
  refine ⟨Or.inr ?_, rfl⟩
  fun_cases nodeDnr true i.st 0 <;> decide

end Zeno.Model.Stages
