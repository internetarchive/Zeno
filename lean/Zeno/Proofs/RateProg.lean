import Zeno.Proofs.ArithExec
import Zeno.Gen.RateProg
import Zeno.Gen.RateLimiter
import Zeno.Proofs.RateLimiter
/-!
The token-bucket methods as translated from the source compute exactly the model functions of `Model/RateLimiter.lean`.
Each proof runs the translated program (`simp only [exec_eqs]`) and compares the tree of `if`s that leaves with the model
function.
-/
namespace Zeno.Model.RateProg
open Zeno.Model.RateLimiter

abbrev P : Progs := Zeno.Gen.RateProg.facts
abbrev G : Facts := Facts.modelled Zeno.Gen.RateLimiter.facts

theorem refill_translated (b : TB) (now : Rat) : runRefill P b now = some (refill b now) := by
  simp only [runRefill, P, Zeno.Gen.RateProg.facts]
  simp only [exec_eqs, reduceIte, Nat.reduceEqDiff]
  by_cases h : b.last < b.pen <;> simp only [refill, TB.base, h, if_true, if_false, apply_ite Prod.fst]

theorem runRefill_eq : runRefill P = fun b now => some (refill b now) :=
  funext fun b => funext (refill_translated b)

/-- one attempt of `Wait()`; "returned" = a request is released -/
theorem wait_translated (b : TB) (now : Rat) : runWaitAttempt P b now = some (tryAcquire G b now) := by
  rw [runWaitAttempt, runRefill_eq]
  simp only [P, Zeno.Gen.RateProg.facts]
  simp only [exec_eqs]
  simp only [tryAcquire, G, Facts.modelled, Zeno.Gen.RateLimiter.facts, Cmp.eval, decide_eq_true_eq]

theorem success_translated (b : TB) (now : Rat) : runOnSuccess P b now = some (onSuccess G b now) := by
  rw [runOnSuccess, runRefill_eq]
  simp only [P, Zeno.Gen.RateProg.facts]
  simp only [exec_eqs, reduceIte]
  simp only [onSuccess, G, Facts.modelled, Zeno.Gen.RateLimiter.facts]
  -- with no failure counted the source leaves the count alone and the model writes `0 - 1 = 0`
  cases b
  grind

theorem new_translated (cap rate now : Rat) : runNew P cap rate now = some (TB.new cap rate now) := rfl

/-! ### the penalty expression: float nanoseconds, capped, converted to a duration -/

theorem truncNs_int (k : Int) (h0 : 0 ≤ k) (h1 : k < 9223372036854775808) : truncNs (k : Rat) = k := by
  rw [truncNs, if_pos (Rat.intCast_nonneg.mpr h0), Rat.floor_intCast, if_neg (by omega)]

theorem min_cast (a b : Int) : min (a : Rat) (b : Rat) = ((min a b : Int) : Rat) := by
  simp only [Rat.min_def, Int.min_def, apply_ite (Int.cast : Int → Rat), Rat.intCast_le_intCast]

theorem penalty_prog (n : Nat) :
    nsToSec (truncNs (min ((5000000000 : Rat) * (2 : Rat) ^ n) 30000000000)) = penalty G (n + 1) := by
  -- the float holds an integer within `int64`, which the conversion leaves as it is
  have h := truncNs_int (min ((5000000000 : Int) * 2 ^ n) 30000000000)
    (Std.le_min_iff.mpr ⟨Int.mul_nonneg (by decide) (Int.pow_nonneg (by decide)), by decide⟩)
    (Int.lt_of_le_of_lt Std.min_le_right (by decide))
  simp only [← min_cast, Rat.intCast_mul, Rat.intCast_ofNat, Rat.intCast_pow] at h
  rw [h]
  -- `delta`, here and in `rateFloor_G`, for `simp [penalty, …]`: the equation lemmas of the two functions, whose bodies test
  -- a string literal, are slow to generate
  delta penalty
  simp [G, Facts.modelled, Zeno.Gen.RateLimiter.facts]

theorem isPenalised_G (st : Nat) : isPenalised G st = decide (st = 429 ∨ st = 403 ∨ st = 408 ∨ st = 425) := by
  simp [isPenalised, G, Facts.modelled, Zeno.Gen.RateLimiter.facts]
theorem isServerError_G (st : Nat) : isServerError G st = decide (500 ≤ st) := by
  simp [isServerError, G, Facts.modelled, Zeno.Gen.RateLimiter.facts, Cmp.eval]
  rfl
theorem rateFloor_G (b : TB) : rateFloor G b = min (1 / 2) b.ideal := by
  delta rateFloor
  simp [G, Facts.modelled, Zeno.Gen.RateLimiter.facts]

/-- the status code is a natural number that the program compares, as an `int`, with literals -/
theorem natCast_eq_lit (n k : Nat) : ((n : Int) = no_index (OfNat.ofNat k)) ↔ n = OfNat.ofNat k := Int.natCast_inj
theorem lit_le_natCast (n k : Nat) : ((no_index (OfNat.ofNat k) : Int) ≤ (n : Int)) ↔ OfNat.ofNat k ≤ n := Int.ofNat_le

theorem failure_translated (b : TB) (now : Rat) (st : Nat) : runOnFailure P b now st = some (onFailure G b now st) := by
  rw [runOnFailure, runRefill_eq]
  simp only [P, Zeno.Gen.RateProg.facts]
  simp only [exec_eqs, reduceIte, Nat.reduceEqDiff]
  simp only [onFailure, isPenalised_G, isServerError_G, rateFloor_G, penalty_prog, decide_eq_true_eq, apply_ite Prod.fst, or_assoc,
    natCast_eq_lit, lit_le_natCast]

theorem step_translated (b : TB) (now : Rat) (e : Ev) : stepProg P b now e = some (step G b now e) := by
  cases e <;> simp only [stepProg, step, wait_translated, failure_translated, success_translated, Option.map_some]

theorem run_translated (evs : List (Rat × Ev)) (b : TB) : runProg P b evs = some (run G b evs) := by
  induction evs generalizing b with
  | nil => rfl
  | cons te rest ih => simp only [runProg, run, step_translated, ih]

end Zeno.Model.RateProg
