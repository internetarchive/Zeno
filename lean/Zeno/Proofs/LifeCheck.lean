import Zeno.Proofs.LifeDone
import Zeno.Proofs.Consistency
/-!
Every stage worker runs `CheckConsistency` on the seed it receives and panics when it fails. Here: along the life of a seed
(Model/Life.lean) the tree handed from stage to stage always passes the check — so, together with Proofs/Life.lean, no worker
panics on a seed's tree at all.

`Tree.Sim.check`: a relabelling that changes statuses only on the childless frontier, and writes no Fresh there, keeps a tree
consistent; `post` is followed node by node; pruning and completion marking are in Proofs/Item.
-/
namespace Zeno.Model.Life
open Zeno.Model.Item Zeno.Model.Stages

theorem checkNode_congr (F : IF) (p : Option Status) {i i' : Info} {n : Nat} (hs : i'.st = i.st) (hv : i'.via = i.via) :
    checkNode F p i' n = checkNode F p i n := by
  unfold checkNode c1 c2 c3 c4 c5
  rw [hs, hv]

/-! ### relabellings -/

mutual
theorem Tree.check_setNorm (F : IF) (ks : List (String × NormRes)) (p : Option Status) (t : Tree) :
    (t.setNorm ks).check F p = t.check F p := by
  cases t with
  | node i k =>
    have hr := normInfo_relab ks i
    have hs := normInfo_st ks i
    show (Tree.node (normInfo ks i) (k.setNorm ks)).check F p = _
    simp only [Tree.check]
    rw [(Forest.sim_setNorm ks 0 k).length, checkNode_congr F p hs hr.via, hr.id, hs, Forest.check_setNorm F ks i.st k]
theorem Forest.check_setNorm (F : IF) (ks : List (String × NormRes)) (p : Status) (f : Forest) :
    (f.setNorm ks).check F p = f.check F p := by
  cases f with
  | nil => rfl
  | cons t f => simp only [Forest.setNorm, Forest.check, Tree.check_setNorm F ks (some p) t, Forest.check_setNorm F ks p f]
end

mutual
/-- `n`: the level of the root. A node whose status changes has nothing on the level below it, so it is childless -/
theorem _root_.Zeno.Model.Item.Tree.Sim.check {Rel : Nat → Info → Info → Prop} (F : IF) {n : Nat} {t t' : Tree} (h : Tree.Sim Rel n t t')
    (hrel : ∀ m, ∀ i ∈ t.atLevel m, ∀ i', Rel (n + m) i i' →
      i'.via = i.via ∧ (i'.st = i.st ∨ (t.atLevel (m + 1) = [] ∧ i'.st ≠ .fresh)))
    {p : Option Status} (hc : t.check F p = none) : t'.check F p = none := by
  cases t with
  | node i k =>
    cases t' with
    | node i' k' =>
      obtain ⟨h1, h2⟩ := h
      rw [Tree.check_node] at hc ⊢
      obtain ⟨hv, hs | ⟨hk, hs⟩⟩ := hrel 0 i (List.mem_singleton_self i) i' h1
      · rw [h2.length, checkNode_congr F p hs hv, hs]
        exact ⟨hc.1, h2.check F (fun m j hj j' hj' => hrel (m + 1) j hj j' (Nat.succ_add_eq_add_succ n m ▸ hj')) hc.2⟩
      · obtain rfl : k' = .nil := forest_atLevel_zero_nil ((h2.atLevel 0).nil_iff.2 hk)
        exact ⟨checkNode_notFresh F p i i' _ _ hv hs (Or.inl rfl) hc.1, rfl⟩
theorem _root_.Zeno.Model.Item.Forest.Sim.check {Rel : Nat → Info → Info → Prop} (F : IF) {n : Nat} {f f' : Forest} (h : Forest.Sim Rel n f f')
    (hrel : ∀ m, ∀ i ∈ f.atLevel m, ∀ i', Rel (n + m) i i' →
      i'.via = i.via ∧ (i'.st = i.st ∨ (f.atLevel (m + 1) = [] ∧ i'.st ≠ .fresh)))
    {p : Status} (hc : f.check F p = none) : f'.check F p = none := by
  cases f with
  | nil =>
    cases f' with
    | nil => rfl
    | cons _ _ => exact h.elim
  | cons t f =>
    cases f' with
    | nil => exact h.elim
    | cons t' f' =>
      rw [Forest.check_cons] at hc ⊢
      -- a level of the forest is empty: so is that level of each part
      exact ⟨h.1.check F (fun m i hi i' hr => (hrel m i (List.mem_append_left _ hi) i' hr).imp_right
          (Or.imp_right (And.imp_left fun e => (List.append_eq_nil_iff.1 e).1))) hc.1,
        h.2.check F (fun m i hi i' hr => (hrel m i (List.mem_append_right _ hi) i' hr).imp_right
          (Or.imp_right (And.imp_left fun e => (List.append_eq_nil_iff.1 e).2))) hc.2⟩
end

theorem Mid.check_setStatuses (F : IF) {R d : Nat} {P : Status → Prop} {t : Tree} (h : Mid R d P t) (l : List String)
    (hl : ∀ x ∈ l, ∃ i ∈ t.atLevel d, i.id = x) (s : Status) (rq : Bool) (hs : s ≠ .fresh) (hk : t.check F none = none) :
    (t.setStatuses l s rq).check F none = none := by
  refine (Tree.sim_setStatuses l s rq 0 t).check F (fun m i hi i' e => ?_) hk
  subst e
  refine ⟨(stamp_relab l s rq i).via, ?_⟩
  rw [stamp_st]
  cases hc : l.contains i.id
  · exact Or.inl rfl
  · exact Or.inr ⟨level_of_id h.ids hl hi hc ▸ h.top, hs⟩

/-- `lev`: the levels of the tree or forest being archived -/
theorem archInfo_check (srv : String → Option Outcome) {w lvl r : Nat} (hr : lvl + r = w) {lev : Nat → List Info}
    (hleaf : lev (r + 1) = []) (m : Nat) (i i' : Info) (e : i' = archInfo srv (lvl + m == w) i) :
    i'.via = i.via ∧ (i'.st = i.st ∨ (lev (m + 1) = [] ∧ i'.st ≠ .fresh)) := by
  subst e
  refine ⟨(archInfo_relab srv _ i).1.via, ?_⟩
  rcases archInfo_st srv (lvl + m == w) i with ⟨_, e⟩ | ⟨hb, _, e⟩
  · rw [e]; exact Or.inl rfl
  · obtain rfl : m = r := Nat.add_left_cancel ((eq_of_beq hb).trans hr.symm)
    exact Or.inr ⟨hleaf, e.elim (· ▸ nofun) (· ▸ nofun)⟩

theorem Tree.check_archive (F : IF) (srv : String → Option Outcome) (w lvl r : Nat) (p : Option Status) (t : Tree)
    (hr : lvl + r = w) (hleaf : t.atLevel (r + 1) = []) (h : t.check F p = none) : (t.archive srv w lvl).check F p = none :=
  (Tree.sim_archive srv w lvl t).check F (fun m i _ => archInfo_check srv hr hleaf m i) h
theorem Forest.check_archive (F : IF) (srv : String → Option Outcome) (w lvl r : Nat) (p : Status) (f : Forest)
    (hr : lvl + r = w) (hleaf : f.atLevel (r + 1) = []) (h : f.check F p = none) : (f.archive srv w lvl).check F p = none :=
  (Forest.sim_archive srv w lvl f).check F (fun m i _ => archInfo_check srv hr hleaf m i) h

theorem check_setRoot (F : IF) (hc : okCheck F = true) {t : Tree} {s : Status} (hs : s = .completed ∨ s = .failed)
    (hk : ∀ i ∈ t.atLevel 1, i.st ≠ .fresh) (h : t.check F none = none) : (setRoot t s).check F none = none := by
  cases t with
  | node i k =>
    have hne : s ≠ .fresh ∧ s ≠ .gotRedirected := by rcases hs with rfl | rfl <;> simp
    rw [Tree.check_node] at h
    simp only [setRoot, Tree.check_node]
    refine ⟨checkNode_notFresh F none i _ _ _ rfl hne.1 (Or.inr ⟨okCheck_with F hc s (hs.imp id Or.inl), fun e => absurd e hne.2⟩) h.1,
      Forest.check_reparent s (.inr fun c hc' => hk c.info ?_) h.2⟩
    simp only [Tree.atLevel, Forest.atLevel_zero]
    exact List.mem_map_of_mem hc'

/-! ### postprocess -/

theorem leaves_length (kids : List Info) : (leaves kids).length = kids.length := by
  induction kids with
  | nil => rfl
  | cons c cs ih => exact congrArg (· + 1) ih

theorem leaves_check (F : IF) (hc : okCheck F = true) {p : Status} (hp : p = .gotChildren ∨ p = .gotRedirected) {kids : List Info}
    (hk : ∀ c ∈ kids, c.via = false) : (leaves kids).check F p = none := by
  induction kids with
  | nil => rfl
  | cons c cs ih =>
    rw [List.forall_mem_cons] at hk
    have hn : checkNode F (some p) c 0 = none := by
      simp [checkNode, c1, c2, c3, c4, c5, hk.1, okCheck_parent F hc p hp]
    simp only [leaves, Forest.check, Tree.check, Forest.length, hn]
    exact ih hk.2

theorem Forest.length_post (S : SF) (cfg : Cfg) (ex : String → Extract) (d lvl : Nat) (pdnr : Int) (f : Forest) :
    (f.post S cfg ex d lvl pdnr).1.length = f.length := by
  cases f with
  | nil => rfl
  | cons t f => exact congrArg (· + 1) (Forest.length_post S cfg ex d lvl pdnr f)

theorem post_leaf_consistent (F : IF) (hc : okCheck F = true) (S : SF) (cfg : Cfg) (ex : String → Extract) (d : Nat) (pdnr : Int)
    (isSeed : Bool) {p : Option Status} {i : Info} (h : checkNode F p i 0 = none) :
    ((Tree.node i .nil).post S cfg ex d d pdnr isSeed).1.check F p = none := by
  rw [Tree.post_node, if_pos (beq_iff_eq.2 rfl)]
  cases i.st == .archived
  · exact (Tree.check_node F p _ _).2 ⟨h, rfl⟩
  · have hkids := postAct_kids_fresh S cfg ex i (nodeDnr isSeed i.st pdnr)
    generalize postAct S cfg ex i (nodeDnr isSeed i.st pdnr) = a at hkids ⊢
    simp only [if_true, Forest.append, Forest.length, Tree.check_node, leaves_length]
    obtain ⟨hnf, hlen, hpar⟩ := a.st_kids
    by_cases hk0 : a.kids = []
    · rw [hk0]
      exact ⟨checkNode_notFresh F p i _ _ _ rfl hnf (Or.inl rfl) h, rfl⟩
    · -- the node passes with its new children, and they pass below a GotChildren / GotRedirected parent
      exact ⟨checkNode_notFresh F p i _ _ _ rfl hnf
          (Or.inr ⟨okCheck_with F hc _ (Or.inr (Or.inr (hpar hk0))), fun e => Nat.le_of_eq (hlen e)⟩) h,
        leaves_check F hc (hpar hk0) (fun c hc => (hkids c hc).2.1)⟩

mutual
theorem Tree.post_consistent (F : IF) (hc : okCheck F = true) (S : SF) (cfg : Cfg) (ex : String → Extract)
    (d lvl r : Nat) (pdnr : Int) (isSeed : Bool) (p : Option Status) (t : Tree) (hr : lvl + r = d) (hleaf : t.atLevel (r + 1) = [])
    (h : t.check F p = none) : (t.post S cfg ex d lvl pdnr isSeed).1.check F p = none := by
  cases t with
  | node i k =>
    rw [Tree.check_node] at h
    cases r with
    | zero =>
      obtain rfl : k = .nil := forest_atLevel_zero_nil hleaf
      subst hr
      exact post_leaf_consistent F hc S cfg ex lvl pdnr isSeed h.1
    | succ r =>
      rw [Tree.post_node, if_neg (by simp [← hr]), Tree.check_node, Forest.length_post]
      exact ⟨h.1, Forest.post_consistent F hc S cfg ex d (lvl + 1) r (nodeDnr isSeed i.st pdnr) i.st k
        ((Nat.succ_add_eq_add_succ lvl r).trans hr) hleaf h.2⟩
theorem Forest.post_consistent (F : IF) (hc : okCheck F = true) (S : SF) (cfg : Cfg) (ex : String → Extract)
    (d lvl r : Nat) (pdnr : Int) (p : Status) (f : Forest) (hr : lvl + r = d) (hleaf : f.atLevel (r + 1) = [])
    (h : f.check F p = none) : (f.post S cfg ex d lvl pdnr).1.check F p = none := by
  cases f with
  | nil => rfl
  | cons t f =>
    simp only [Forest.atLevel, List.append_eq_nil_iff] at hleaf
    rw [Forest.check_cons] at h
    exact (Forest.check_cons ..).2 ⟨Tree.post_consistent F hc S cfg ex d lvl r pdnr false (some p) t hr hleaf.1 h.1,
      Forest.post_consistent F hc S cfg ex d lvl r pdnr p f hr hleaf.2 h.2⟩
end

set_option linter.unusedVariables false in
/-- `Forest.post_consistent`; `hS` is not needed -/
theorem Forest.check_post (F : IF) (hc : okCheck F = true) (S : SF) (hS : okPost S = true) (cfg : Cfg) (ex : String → Extract)
    (d lvl r : Nat) (pdnr : Int) (p : Status) (f : Forest) (hr : lvl + r = d) (hleaf : f.atLevel (r + 1) = [])
    (h : f.check F p = none) : (f.post S cfg ex d lvl pdnr).1.check F p = none :=
  Forest.post_consistent F hc S cfg ex d lvl r pdnr p f hr hleaf h

/-! ### the whole pass -/

theorem Mid.kids_not_fresh {R d : Nat} {P : Status → Prop} {t : Tree} (h : Mid R d P t) (hl : ∀ i ∈ t.atLevel d, i.st ≠ .fresh) :
    ∀ i ∈ t.atLevel 1, i.st ≠ .fresh :=
  fun i hi hf => hl i (h.pend 1 i hi (by rw [hf]; rfl) ▸ hi) hf

theorem requested_check (F : IF) (hc : okCheck F = true) {R d : Nat} {t2 : Tree} (l : List String)
    (hl : ∀ x ∈ l, ∃ i ∈ t2.atLevel d, i.id = x) (h : Mid R d (· = .fresh) t2) (hk : t2.check F none = none) :
    (requested t2 l d).check F none = none := by
  have hseen := h.check_setStatuses F l hl .seen false nofun hk
  rcases requested_cases t2 l d with ⟨hemp, e⟩ | ⟨_, e⟩ <;> rw [e]
  · exact check_setRoot F hc (Or.inl rfl)
      ((h.seen l).kids_not_fresh (fun i hi hf => List.filter_eq_nil_iff.1 hemp i hi (beq_iff_eq.2 hf))) hseen
  · exact (h.seen l).check_setStatuses F _ ids_filter_sub .preProcessed true nofun hseen

theorem pre_check (S : SF) (I : IF) (hI : okSets I = true) (hc : okCheck I = true) (hg : (S.preSeencheckGuard == "always") = false) (cfg : Cfg)
    (norm : String → Option NormRes) (seen : Seen) {R d : Nat} {t : Tree} (h : Start R d t) (hw : t.wp d = true)
    (hk : t.check I none = none) : (preprocess S I cfg norm seen t).1.check I none = none := by
  have hk1 (ks rm) : ((t.setNorm ks).prune rm).check I none = none :=
    Tree.check_prune I rm none _ ((Tree.check_setNorm I ks none t).trans hk)
  obtain ⟨h1, ⟨l, hl, e⟩ | ⟨rfl, st, hst, e⟩⟩ := preprocess_treeW S I hg cfg norm seen h hw <;> rw [e]
  · exact requested_check I hc l hl (h1.toMid.dedupe I hI) (dedupe_consistent I hI hc _ (hk1 _ _))
  · -- the seed alone: no child at all
    exact check_setRoot I hc hst (h1.top ▸ List.forall_mem_nil _) (hk1 _ _)

theorem archive_consistent (F : IF) (srv : String → Option Outcome) {t : Tree} (h : t.check F none = none) :
    (archive srv t).check F none = none :=
  Tree.check_archive F srv _ 0 t.maxDepth none t (Nat.zero_add _) (atLevel_above_nil t _ (Nat.lt_succ_self _)) h

theorem postprocess_consistent (F : IF) (hc : okCheck F = true) (S : SF) (cfg : Cfg) (ex : String → Extract) {t : Tree}
    (h : t.check F none = none) : (postprocess S cfg ex t).1.check F none = none :=
  Tree.post_consistent F hc S cfg ex _ 0 t.maxDepth 0 true none t (Nat.zero_add _) (atLevel_above_nil t _ (Nat.lt_succ_self _)) h

theorem finisher_consistent (F : IF) (hs : okSets F = true) (hc : okCheck F = true) {t : Tree} (h : t.check F none = none) :
    (finisher F t).1.check F none = none := by
  rcases finisher_tree F t with e | e <;> rw [e]
  · exact h
  · exact Tree.check_mark F hs hc none t h

/-- **No worker's consistency check fails**: along one pass the tree every stage receives passes `CheckConsistency` -/
theorem pass_consistent (S : SF) (hg : (S.preSeencheckGuard == "always") = false) (I : IF) (hI : okSets I = true)
    (hc : okCheck I = true) (cfg : Cfg) (o : Oracle) (seen : Seen) {R d : Nat} {t : Tree} (h : Start R d t) (hw : t.wp d = true)
    (hk : t.check I none = none) :
    let p := preprocess S I cfg o.norm seen t
    let a := archive o.srv p.1
    let q := postprocess S cfg o.ex a
    p.1.check I none = none ∧ a.check I none = none ∧ q.1.check I none = none ∧ (pass S I cfg o seen t).tree.check I none = none := by
  have hp := pre_check S I hI hc hg cfg o.norm seen h hw hk
  have ha := archive_consistent I o.srv hp
  have hq := postprocess_consistent I hc S cfg o.ex ha
  simp only [pass]
  exact ⟨hp, ha, hq, finisher_consistent I hI hc hq⟩

/-- along a whole life: every tree with which a pass starts, and the tree with which the seed finally leaves, is consistent -/
theorem life_consistent (S : SF) (hS : okPost S = true) (hg : (S.preSeencheckGuard == "always") = false) (I : IF) (hI : okSets I = true)
    (hc : okCheck I = true) (cfg : Cfg) (hdc : cfg.domainsCrawl = false) (os : List Oracle) :
    ∀ (seen : Seen) (d : Nat) (t : Tree), Start cfg.maxRedirect d t → t.wp d = true → t.check I none = none →
      idsOK S I cfg os seen t = true → ∀ t', (life S I cfg os seen t).2 = some t' → t'.check I none = none :=
  fun seen d t h hw hk => life_last S I cfg (fun d t => Start cfg.maxRedirect d t ∧ t.wp d = true ∧ t.check I none = none)
    (·.check I none = none)
    (fun o seen _ _ h hid =>
      have hcons := (pass_consistent S hg I hI hc cfg o seen h.1 h.2.1 h.2.2).2.2.2
      (pass_progressW S hS hg I hI cfg hdc o seen h.1 h.2.1 hid).imp (And.imp_right fun _ => hcons)
        (And.imp_right fun h' => ⟨h'.1, h'.2, hcons⟩)) os seen d t ⟨h, hw, hk⟩

end Zeno.Model.Life
