import Zeno.Proofs.Pause
import Zeno.Proofs.ListIdx
/-!
Termination of the pause / resume protocol: a measure `mu` that every internal step strictly decreases. With
`quiescent_facts` this gives total correctness: from every reachable state `s` every schedule of internal steps has at
most `mu s` steps, and one that cannot be continued ends with every `Pause` and `Resume` call returned.
-/
namespace Zeno.Model.Pause

def sumLen (L : List (List Nat)) : Nat := (L.map List.length).sum

def cntF (n : Nat) (subs : Nat → Sub) (p : Sub → Bool) : Nat := (List.range n).countP (fun j => p (subs j))

/-- the measure: blocked Resumes weigh more than what they add when they start; each pause signal still to be sent
weighs two (sending it hands a token to a worker); each collecting Resume, each subscriber it still waits for, each token
and each live worker weighs one -/
def mu (s : S) : Nat :=
  (s.n + 2) * s.waiting + s.resumes.length + sumLen s.resumes + 2 * sumLen s.pauses +
  cntF s.n s.subs (·.token) + cntF s.n s.subs (·.live)

theorem sumLen_eq (L : List (List Nat)) : sumLen L = L.flatten.length := List.length_flatten.symm

theorem sumLen_dropEmpty (L : List (List Nat)) : sumLen (dropEmpty L) = sumLen L := by
  rw [sumLen_eq, sumLen_eq, flatten_dropEmpty]

theorem sumLen_set {L : List (List Nat)} {k a : Nat} {w w' : List Nat} (hk : L[k]? = some w) (hw : w.Perm (a :: w')) :
    sumLen L = sumLen (L.set k w') + 1 := by
  rw [sumLen_eq, sumLen_eq, (flatten_set_perm hk hw).length_eq, List.length_cons]

theorem sumLen_append_one (L : List (List Nat)) (w : List Nat) : sumLen (L ++ [w]) = sumLen L + w.length := by
  simp [sumLen]

theorem liveIdx_length_le (s : S) : s.liveIdx.length ≤ s.n :=
  Nat.le_trans (List.length_filter_le _ _) (Nat.le_of_eq List.length_range)

theorem cntF_update {s : S} {i : Nat} (u : Sub) (p : Sub → Bool) (hi : i < s.n) :
    cntF s.n (fun j => if j = i then u else s.subs j) p + (p (s.sub i)).toNat = cntF s.n s.subs p + (p u).toNat := by
  have hp := List.perm_cons_erase (List.mem_range.2 hi)
  have he : ∀ j ∈ (List.range s.n).erase i, (p (if j = i then u else s.subs j) = true ↔ p (s.subs j) = true) :=
    fun j hj => by rw [if_neg (List.nodup_range.mem_erase_iff.mp hj).1]
  rw [S.sub, if_pos hi, cntF, cntF, hp.countP_eq, hp.countP_eq, List.countP_cons, List.countP_cons, if_pos rfl,
    List.countP_congr he]
  cases p u <;> cases p (s.subs i) <;> rfl

/-- replacing the live subscriber `i` by `u` changes `mu` by the difference in tokens and liveness; `l` is a variable so
that `l.toNat` reduces at the call -/
theorem mu_setSub (s : S) {i : Nat} (hl : s.live i = true) (u : Sub) {l : Bool} (hu : u.live = l) :
    mu (s.setSub i u) + (s.sub i).token.toNat + 1 = mu s + u.token.toNat + l.toNat := by
  have ht := cntF_update u (·.token) (live_lt hl)
  have hv := cntF_update u (·.live) (live_lt hl)
  rw [show (s.sub i).live = true from hl, hu, Bool.toNat_true] at hv
  simp only [mu, S.setSub]
  omega

theorem mu_decreases {F : Facts} {s s' : S} {a : Act} (hint : a.internal = true) (hs : step F s a = some s') : mu s' < mu s := by
  have send : ∀ {k i rest}, s.pauses[k]? = some (i :: rest) →
      mu { s with pauses := dropEmpty (s.pauses.set k rest) } + 2 = mu s := fun hk => by
    simp +arith only [mu, sumLen_dropEmpty, sumLen_set hk (.refl _)]
  have recv : ∀ {k i w}, s.resumes[k]? = some w → i ∈ w →
      mu { s with resumes := s.resumes.set k (w.erase i) } + 1 = mu s := fun hk hi => by
    simp +arith only [mu, List.length_set, sumLen_set hk (List.perm_cons_erase hi)]
  cases step_sound hs with
  | @sendLive k i rest hk hl =>
    have hm := mu_setSub { s with pauses := dropEmpty (s.pauses.set k rest) } hl { s.sub i with token := true } hl
    have := send hk
    -- on the goal too: the `let` of `{ s.sub i with … }` is unfolded there, so that `omega` meets the same term as in `hm`
    simp only [Bool.toNat_true] at hm ⊢
    omega
  | sendDead hk _ => exact send hk ▸ Nat.lt_add_of_pos_right Nat.two_pos
  | @recvAck k i w hk hi hst =>
    have hm := mu_setSub { s with resumes := s.resumes.set k (w.erase i) } (live_of_st hst nofun)
      { s.sub i with st := .running } (l := true) rfl
    have := recv hk hi
    simp only [sub_withResumes, Bool.toNat_true] at hm ⊢
    omega
  | recvClosed hk hi _ => exact recv hk hi ▸ Nat.lt_add_one _
  | finish hk =>
    have h := List.perm_cons_eraseIdx hk
    simp +arith only [mu, sumLen_eq, h.flatten.length_eq, h.length_eq, List.flatten_cons, List.nil_append,
      List.length_cons]
  | proceed _ _ hw =>
    -- the waiter's weight `n + 2` pays for the Resume it starts: one entry and at most `n` subscribers to collect
    have hm : (s.n + 2) * s.waiting = (s.n + 2) * (s.waiting - 1) + (s.n + 2) := by
      rw [← Nat.mul_add_one, Nat.sub_one_add_one (Nat.ne_of_gt hw)]
    fun_cases startResume
    · simp +arith only [mu, hm]
    · simp +arith only [mu, hm, sumLen_append_one, List.length_append, List.length_singleton]
      exact liveIdx_length_le _
  | @take i hst ht =>
    have hm := mu_setSub s (live_of_st hst nofun) { st := .acking, token := false } (l := true) rfl
    simp only [ht, Bool.toNat_true, Bool.toNat_false] at hm
    omega
  | @exit i _ hi hst =>
    have hl := hst.elim (live_of_st · nofun) fun h => live_of_st h.1 nofun
    have hm := mu_setSub s hl { st := .exited, token := false } (l := false) rfl
    simp only [Bool.toNat_false] at hm
    omega
  | _ => cases hint

/-- a schedule of internal steps -/
inductive Run (F : Facts) : S → List Act → S → Prop
  | nil (s : S) : Run F s [] s
  | cons {s s' s'' : S} {a : Act} {as : List Act} (hi : a.internal = true) (hs : step F s a = some s') (hr : Run F s' as s'') :
      Run F s (a :: as) s''

/-- **no livelock**: a schedule of internal steps from `s` has at most `mu s` steps -/
theorem run_bounded (F : Facts) (s s' : S) (acts : List Act) (h : Run F s acts s') : acts.length + mu s' ≤ mu s := by
  induction h with
  | nil s => simp
  | cons hi hs _ ih =>
    rw [List.length_cons, Nat.add_right_comm]
    exact Nat.le_trans (Nat.add_le_add_right ih 1) (mu_decreases hi hs)

theorem run_reachable (F : Facts) (n : Nat) (s s' : S) (acts : List Act) (hr : Reachable F n s) (h : Run F s acts s') : Reachable F n s' := by
  induction h with
  | nil s => exact hr
  | cons _ hs _ ih => exact ih (Reachable.step _ _ _ hr hs)

end Zeno.Model.Pause
