import Zeno.Proofs.Item
/-!
`DedupeItems`: `DInv` is the invariant of its loop over the flattened tree. From it: one node per URL is left below the seed
(`dedupe_nodup`), no URL is discarded altogether (`dedupe_keeps_urls`), and what is removed is Fresh where the processed nodes
already have pairwise distinct URLs (`dedupeRemoved_fresh`).
-/
namespace Zeno.Model.Item

theorem DState.lookup_cons (s : DState) (r : List String) (u v : String) (n : Info) :
    ({ seen := (v, n) :: s.seen, removed := r } : DState).lookup u = if v = u then some n else s.lookup u := by
  simp only [DState.lookup, List.find?_cons]
  split <;> simp_all

/-- invariant of the loop of `DedupeItems` after the prefix `P` has been visited -/
structure DInv (P : List Info) (s : DState) : Prop where
  holder : ∀ n ∈ P, n.id ∈ s.removed ∨ s.lookup n.url = some n               -- a visited node is removed or holds its URL
  sound : ∀ u e, s.lookup u = some e → e ∈ P ∧ e.url = u ∧ e.id ∉ s.removed  -- a holder is a visited, unremoved node with that URL
  removedIn : ∀ r ∈ s.removed, ∃ n ∈ P, n.id = r                             -- removed ids belong to visited nodes
  covered : ∀ n ∈ P, ∃ e, s.lookup n.url = some e                            -- every visited URL has a holder

theorem dinv_init : DInv [] { seen := [], removed := [] } :=
  ⟨List.forall_mem_nil _, fun _ _ h => (nomatch h), List.forall_mem_nil _, List.forall_mem_nil _⟩

section step
variable {P : List Info} {s : DState} {n : Info}

/-- `n` takes the URL; a former holder, if any, is removed -/
theorem DInv.take (h : DInv P s) (hP : (P.map (·.id)).Nodup) (hnew : ∀ m ∈ P, m.id ≠ n.id) {r : List String}
    (hr : ∀ x, x ∈ r ↔ x ∈ s.removed ∨ ∃ e, s.lookup n.url = some e ∧ e.id = x) :
    DInv (P ++ [n]) { seen := (n.url, n) :: s.seen, removed := r } := by
  have hrP : ∀ x ∈ r, ∃ m ∈ P, m.id = x := fun x hx =>
    ((hr x).1 hx).elim (h.removedIn x) (Exists.imp fun e he => ⟨(h.sound _ _ he.1).1, he.2⟩)
  have hn := (DState.lookup_cons s r n.url n.url n).trans (if_pos rfl)  -- in the new state `n` holds its URL
  constructor
  case holder =>
    refine List.forall_mem_append.2 ⟨fun m hm => ?_, List.forall_mem_singleton.2 (.inr hn)⟩
    rw [DState.lookup_cons, hr]
    by_cases hu : n.url = m.url
    · exact .inl ((h.holder m hm).imp_right fun h1 => ⟨m, hu ▸ h1, rfl⟩)
    · exact (h.holder m hm).imp .inl (if_neg hu).trans
  case sound =>
    intro u x hx
    rw [DState.lookup_cons] at hx
    split at hx
    · cases hx
      exact ⟨List.mem_concat_self, ‹_›, fun hc => (hrP _ hc).elim fun m hm => hnew m hm.1 hm.2⟩
    · obtain ⟨h1, h2, h3⟩ := h.sound u x hx
      refine ⟨List.mem_append_left _ h1, h2, fun hc => ((hr _).1 hc).elim h3 fun ⟨e, he, hc⟩ => ?_⟩
      -- the former holder has the id of `x`, so it is `x`; but the URL of `x` is not that of `n`
      obtain ⟨heP, heu, _⟩ := h.sound _ _ he
      cases eq_of_nodup_map (·.id) P hP e x heP h1 hc
      exact ‹¬n.url = u› (heu.symm.trans h2)
  case removedIn => exact fun x hx => (hrP x hx).imp fun _ hm => ⟨List.mem_append_left _ hm.1, hm.2⟩
  case covered =>
    refine List.forall_mem_append.2 ⟨fun m hm => ?_, List.forall_mem_singleton.2 ⟨n, hn⟩⟩
    rw [DState.lookup_cons]
    split
    · exact ⟨n, rfl⟩
    · exact h.covered m hm

/-- `n` is dropped in favour of the holder -/
theorem DInv.drop (h : DInv P s) (hnew : ∀ m ∈ P, m.id ≠ n.id) {e : Info} (hl : s.lookup n.url = some e) :
    DInv (P ++ [n]) { s with removed := n.id :: s.removed } where
  holder := List.forall_mem_append.2
    ⟨fun m hm => (h.holder m hm).imp_left (List.mem_cons_of_mem _),
      List.forall_mem_singleton.2 (.inl List.mem_cons_self)⟩
  sound u x hx := by
    obtain ⟨h1, h2, h3⟩ := h.sound u x hx
    exact ⟨List.mem_append_left _ h1, h2, fun hc => (List.mem_cons.1 hc).elim (hnew x h1) h3⟩
  removedIn := List.forall_mem_cons.2
    ⟨⟨n, List.mem_concat_self, rfl⟩,
      fun x hx => (h.removedIn x hx).imp fun _ hm => ⟨List.mem_append_left _ hm.1, hm.2⟩⟩
  covered := List.forall_mem_append.2 ⟨h.covered, List.forall_mem_singleton.2 ⟨e, hl⟩⟩

theorem new_id {ns : List Info} (hn : ((P ++ n :: ns).map (·.id)).Nodup) : ∀ m ∈ P, m.id ≠ n.id := by
  rw [List.map_append, List.nodup_append] at hn
  exact fun m hm => hn.2.2 _ (List.mem_map_of_mem hm) _ (List.mem_map_of_mem List.mem_cons_self)

end step

/-- a step of the loop at `n`, with `ns` still to come -/
theorem dinv_step (F : Facts) {P ns : List Info} {n : Info} {s : DState}
    (hn : ((P ++ n :: ns).map (·.id)).Nodup) (h : DInv P s) : DInv (P ++ [n]) (dedupeStep F s n) := by
  have hP : (P.map (·.id)).Nodup := ((List.sublist_append_left P _).map _).nodup hn
  fun_cases dedupeStep F s n
  next _ hl _ => exact h.take hP (new_id hn) (by simp [hl, or_comm, eq_comm])
  next _ hl _ => exact h.drop (new_id hn) hl
  next hl => exact h.take hP (new_id hn) (by simp [hl])

theorem dinv_fold (F : Facts) (P rest : List Info) {s : DState}
    (hn : ((P ++ rest).map (·.id)).Nodup) (h : DInv P s) : DInv (P ++ rest) (rest.foldl (dedupeStep F) s) := by
  induction rest generalizing P s with
  | nil => rwa [List.append_nil]
  | cons n ns ih =>
    have h' := dinv_step F hn h
    rw [List.append_cons] at hn ⊢
    exact ih _ hn h'

theorem dinv_dedupe (F : Facts) {nodes : List Info} (hn : (nodes.map (·.id)).Nodup) :
    DInv nodes (nodes.foldl (dedupeStep F) { seen := [], removed := [] }) :=
  dinv_fold F [] nodes hn dinv_init

theorem kept_urls_nodup (F : Facts) {nodes : List Info} (hn : (nodes.map (·.id)).Nodup) :
    ((nodes.filter (keepP (dedupeRemoved F nodes))).map (·.url)).Nodup := by
  refine nodup_map_on _ _ ((nodup_of_map _ _ hn).sublist List.filter_sublist) fun x hx y hy hxy => ?_
  -- a node that is not removed is the holder of its URL
  simp only [List.mem_filter, keepP_iff] at hx hy
  have h1 := ((dinv_dedupe F hn).holder x hx.1).resolve_left hx.2
  have h2 := ((dinv_dedupe F hn).holder y hy.1).resolve_left hy.2
  rw [hxy, h2] at h1
  exact (Option.some.inj h1).symm

/-- at most one processed (non-fresh) node per URL — what de-duplication at every pass maintains -/
def ProcessedUnique (nodes : List Info) : Prop :=
  ∀ a ∈ nodes, ∀ b ∈ nodes, a.st ≠ .fresh → b.st ≠ .fresh → a.url = b.url → a = b

/-- what a step removes is fresh: were the holder and the later node both processed, two processed nodes would share
a URL -/
theorem step_removed_fresh {F : Facts} (hF : okDedupe F = true) {P ns : List Info} {n : Info} {s : DState}
    (h : DInv P s) (hu : ProcessedUnique (P ++ n :: ns)) (hne : ∀ m ∈ P, m.id ≠ n.id) :
    ∀ r ∈ (dedupeStep F s n).removed, r ∈ s.removed ∨ ∃ m ∈ P ++ [n], m.id = r ∧ m.st = .fresh := by
  simp only [okDedupe, Bool.and_eq_true, beq_iff_eq] at hF
  unfold dedupeStep
  cases hl : s.lookup n.url with
  | none => exact fun r => .inl
  | some e =>
    obtain ⟨heP, heu, _⟩ := h.sound _ _ hl
    -- the later node wins exactly when it is processed and the holder is fresh
    simp only [hF.1.1.1.1, String.reduceBEq, Bool.false_and, Bool.false_or, beq_self_eq_true, Bool.true_and,
      Bool.and_eq_true, beq_iff_eq, bne_iff_ne]
    split
    · rename_i hc
      exact List.forall_mem_cons.2 ⟨.inr ⟨e, List.mem_append_left _ heP, rfl, hc.1⟩, fun r => .inl⟩
    · rename_i hc
      refine List.forall_mem_cons.2 ⟨.inr ⟨n, List.mem_concat_self, rfl, Classical.byContradiction fun hnf => ?_⟩,
        fun r => .inl⟩
      exact hne e heP (congrArg Info.id (hu e (List.mem_append_left _ heP) n
        (List.mem_append_right _ List.mem_cons_self) (fun hef => hc ⟨hef, hnf⟩) hnf heu))

theorem fold_removed_fresh (F : Facts) (hF : okDedupe F = true) (P rest : List Info) (s : DState)
    (hn : ((P ++ rest).map (·.id)).Nodup) (h : DInv P s) (hu : ProcessedUnique (P ++ rest))
    (hs : ∀ r ∈ s.removed, ∃ m ∈ P, m.id = r ∧ m.st = .fresh) :
    ∀ r ∈ (rest.foldl (dedupeStep F) s).removed, ∃ m ∈ P ++ rest, m.id = r ∧ m.st = .fresh := by
  induction rest generalizing P s with
  | nil => rwa [List.append_nil]
  | cons n ns ih =>
    have h' := dinv_step F hn h
    have hs' := step_removed_fresh hF h hu (new_id hn)
    rw [List.append_cons] at hn hu ⊢
    exact ih _ _ hn h' hu fun r hr =>
      (hs' r hr).elim (fun h1 => (hs r h1).imp fun m hm => ⟨List.mem_append_left _ hm.1, hm.2⟩) id

theorem dedupeRemoved_fresh (F : Facts) (hF : okDedupe F = true) (nodes : List Info) (hid : (nodes.map (·.id)).Nodup)
    (hu : ProcessedUnique nodes) : ∀ j ∈ nodes, (dedupeRemoved F nodes).contains j.id = true → j.st = .fresh := by
  intro j hj hc
  obtain ⟨m, hm, hmid, hst⟩ :=
    fold_removed_fresh F hF [] nodes _ hid dinv_init hu (List.forall_mem_nil _) j.id (List.contains_iff_mem.1 hc)
  cases eq_of_nodup_map (·.id) nodes hid m j hm hj hmid
  exact hst

theorem dedupe_kids (F : Facts) (i : Info) (k : Forest) :
    (dedupe F (.node i k)).kids = (k.prune (dedupeRemoved F k.flatten)).mark F :=
  Tree.kids_mark F i _

/-- De-duplication never discards a URL altogether, in a tree whose fresh nodes are leaves and whose processed nodes
have pairwise distinct URLs. -/
theorem dedupe_keeps_urls (F : Facts) (hF : okDedupe F = true) (i : Info) (k : Forest)
    (hid : (k.flatten.map (·.id)).Nodup) (hfl : k.freshLeaf = true) (hu : ProcessedUnique k.flatten) :
    ∀ u ∈ k.flatten.map (·.url), u ∈ (dedupe F (.node i k)).kids.flatten.map (·.url) := by
  refine List.forall_mem_map.2 fun m hm => ?_
  -- the holder of the URL at the end of the loop is not removed; only fresh leaves are
  obtain ⟨e, he⟩ := (dinv_dedupe F hid).covered m hm
  obtain ⟨heP, heu, her⟩ := (dinv_dedupe F hid).sound _ _ he
  rw [dedupe_kids, Forest.flatten_mark, Forest.flatten_prune_eq _ k (dedupeRemoved_fresh F hF _ hid hu) hfl]
  exact List.mem_map.2 ⟨e, List.mem_filter.2 ⟨heP, keepP_iff.2 her⟩, heu⟩

/-- De-duplication leaves one node per URL below the seed. -/
theorem dedupe_nodup (F : Facts) (i : Info) (k : Forest) (hid : (k.flatten.map (·.id)).Nodup) :
    ((dedupe F (.node i k)).kids.flatten.map (·.url)).Nodup := by
  rw [dedupe_kids, Forest.flatten_mark]
  exact ((Forest.flatten_prune _ k).map _).nodup (kept_urls_nodup F hid)

end Zeno.Model.Item
