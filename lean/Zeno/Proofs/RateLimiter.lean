import Zeno.Model.RateLimiter
/-!
The token bucket over exact rationals, for every event sequence and timing: the range invariant `Inv`, the window bound by
the potential `pot`, the honoured penalty (`Serving`), the size of the host table (`TInv`).
-/
namespace Zeno.Model.RateLimiter

/-- the proofs read the five values `Consts` names and leave open which statuses are penalised or server errors (`onFailure_cases`) -/
def okConsts (F : Facts) : Bool :=
  F.minRefillRate == (1 : Rat) / 2 && F.recoveryFactor == (1 : Rat) / 10 && F.maxPenaltyNs == 30000000000 &&
  F.basePenaltyNs == 5000000000 && F.penalisedStatuses == [429, 403, 408, 425] && F.serverErrorOp == .ge &&
  F.serverErrorFrom == 500 && F.acquireOp == .ge

def okShapes (F : Facts) : Bool :=
  F.refillSkipsInPenalty && F.refillFromLaterOfLastAndPenalty && F.refillFormula && F.waitShape && F.newBucketFull &&
  F.penaltySetsUntilAndZeroes && F.failureCountIncrBoth && F.rateCutAssigns && F.successShape

/-- the two repaired expressions -/
def okFixes (F : Facts) : Bool := F.penaltyCap == "capBeforeConversion" && F.rateFloor == "minOfConstantAndIdeal"

/-- the proofs read `evictOp`; the two shapes are text comparisons: `getBucket` and `evictLFU` are written as the model has them -/
def okTable (F : Facts) : Bool := F.evictOp == .ge && F.getBucketShape && F.evictShape

/-- `okShapes` (text comparisons of the method bodies) is not asked for: the methods themselves are translated and shown to
compute the model (Proofs/RateProg.lean) -/
def ok (F : Facts) : Bool := okConsts F && okFixes F && okTable F

variable {F : Facts}

theorem ok_parts (h : ok F = true) : okConsts F = true ∧ okFixes F = true ∧ okTable F = true := by
  simpa only [ok, Bool.and_eq_true, and_assoc] using h

structure Consts (F : Facts) : Prop where
  minRefillRate : F.minRefillRate = 1 / 2
  recoveryFactor : F.recoveryFactor = 1 / 10
  maxPenaltyNs : F.maxPenaltyNs = 30000000000
  basePenaltyNs : F.basePenaltyNs = 5000000000
  acquireOp : F.acquireOp = .ge

theorem consts (h : okConsts F = true) : Consts F := by
  simp only [okConsts, Bool.and_eq_true, beq_iff_eq] at h
  constructor <;> simp only [h]

structure Inv (b : TB) : Prop where
  t0 : 0 ≤ b.tokens
  tc : b.tokens ≤ b.cap
  i0 : 0 ≤ b.ideal
  rlo : min ((1 : Rat) / 2) b.ideal ≤ b.rate
  rhi : b.rate ≤ b.ideal
  /-- `last < pen`: a penalty is being served; the failure that set it emptied the bucket and `refill` adds nothing before `pen` -/
  pz : b.last < b.pen → b.tokens = 0

theorem sub_nonneg {a b : Rat} (h : a ≤ b) : 0 ≤ b - a := (Rat.le_iff_sub_nonneg a b).mp h

theorem le_add_of_nonneg (c : Rat) {d : Rat} (h : 0 ≤ d) : c ≤ c + d := by grind

theorem mul_le_mul {a b c d : Rat} (h1 : 0 ≤ a) (h2 : a ≤ b) (h3 : 0 ≤ c) (h4 : c ≤ d) : a * c ≤ b * d :=
  Rat.le_trans (Rat.mul_le_mul_of_nonneg_left h4 h1) (Rat.mul_le_mul_of_nonneg_right h2 (Rat.le_trans h3 h4))

theorem sub_le_sub_left {a b : Rat} (h : a ≤ b) (c : Rat) : c - b ≤ c - a := by
  rw [Rat.sub_eq_add_neg, Rat.sub_eq_add_neg]; exact Rat.add_le_add_left.mpr (Rat.neg_le_neg h)

theorem sub_mul_split (a b c i : Rat) : (a - c) * i = (b - c) * i + (a - b) * i := by grind

theorem min_le_min_left {c x y : Rat} (h : x ≤ y) : min c x ≤ min c y :=
  Std.le_min_iff.mpr ⟨Std.min_le_left, Rat.le_trans Std.min_le_right h⟩

theorem min_add_le {c x d : Rat} (h : 0 ≤ d) : min c (x + d) ≤ min c x + d := by
  rcases Std.min_eq_or (a := c) (b := x) with e | e <;> rw [e]
  · exact Rat.le_trans Std.min_le_left (le_add_of_nonneg c h)
  · exact Std.min_le_right

theorem mul_pow_le {r a : Rat} (hr : 0 ≤ r) (h0 : 0 ≤ a) (h1 : a ≤ 1) (n : Nat) : r * a ^ n ≤ r := by
  induction n with
  | zero => rw [Rat.pow_zero, Rat.mul_one]; exact Rat.le_refl
  | succ k ih =>
    have := mul_le_mul (Rat.mul_nonneg hr (Rat.pow_nonneg h0)) ih h0 h1
    rwa [Rat.mul_one, Rat.mul_assoc, ← Rat.pow_succ] at this

/-- the rate `onSuccess` sets: moved toward `i` by the fraction `k` of the distance, but not past `i` -/
theorem recover_bounds {r i k x : Rat} (h : r ≤ i) (hk : 0 ≤ k)
    (hx : x = if r < i then (if i < r + (i - r) * k then i else r + (i - r) * k) else r) : r ≤ x ∧ x ≤ i := by
  have := le_add_of_nonneg r (Rat.mul_nonneg (sub_nonneg h) hk)
  subst hx
  split
  · split
    · exact ⟨h, Rat.le_refl⟩
    · exact ⟨this, Rat.not_lt.mp ‹_›⟩
  · exact ⟨Rat.le_refl, h⟩

theorem half_unit : (0 : Rat) ≤ 1 / 2 ∧ (1 : Rat) / 2 ≤ 1 := by decide +kernel

theorem Inv.r0 {b : TB} (h : Inv b) : 0 ≤ b.rate :=
  Rat.le_trans (Std.le_min_iff.mpr ⟨half_unit.1, h.i0⟩) h.rlo

theorem Inv.c0 {b : TB} (h : Inv b) : 0 ≤ b.cap := Rat.le_trans h.t0 h.tc

theorem Inv.not_serving {b : TB} (h : Inv b) (ha : 1 ≤ b.tokens) : ¬ b.last < b.pen :=
  fun hc => absurd (h.pz hc ▸ ha : (1 : Rat) ≤ 0) (by decide)

theorem TB.last_le_base (b : TB) : b.last ≤ b.base := by
  fun_cases TB.base b
  · exact Rat.le_of_lt ‹_›
  · exact Rat.le_refl

theorem refill_cases (b : TB) (now : Rat) :
    ((now < b.pen ∨ now ≤ b.base) ∧ refill b now = b) ∨
    (b.pen ≤ now ∧ b.base < now ∧
      refill b now = { b with tokens := min b.cap (b.tokens + (now - b.base) * b.rate), last := now }) := by
  fun_cases refill b now
  next h => exact .inl ⟨.inl h, rfl⟩
  next h1 h2 => exact .inr ⟨Rat.not_lt.mp h1, (Rat.lt_iff_sub_pos ..).mpr h2, rfl⟩
  next h1 h2 => exact .inl ⟨.inr (Rat.not_lt.mp (mt (Rat.lt_iff_sub_pos ..).mp h2)), rfl⟩

theorem tryAcquire_cases (hF : okConsts F = true) (b : TB) (now : Rat) :
    tryAcquire F b now = (refill b now, false) ∨
    (1 ≤ (refill b now).tokens ∧
      tryAcquire F b now = ({ refill b now with tokens := (refill b now).tokens - 1 }, true)) := by
  fun_cases tryAcquire F b now
  next h =>
    rw [(consts hF).acquireOp] at h
    exact .inr ⟨of_decide_eq_true h, rfl⟩
  next => exact .inl rfl

theorem onFailure_cases (F : Facts) (b : TB) (now : Rat) (st : Nat) :
    onFailure F b now st = b ∨
    onFailure F b now st = { b with fails := b.fails + 1, pen := now + penalty F (b.fails + 1), tokens := 0 } ∨
    onFailure F b now st =
      { b with fails := b.fails + 1, rate := max (b.rate * (1 / 2) ^ (b.fails + 1)) (rateFloor F b), tokens := 0 } := by
  fun_cases onFailure F b now st
  · exact .inr (.inl rfl)
  · exact .inr (.inr rfl)
  · exact .inl rfl

theorem cut_bounds (hF : okConsts F = true) (hX : okFixes F = true) {b : TB} (h : Inv b) (n : Nat) :
    min (1 / 2) b.ideal ≤ max (b.rate * (1 / 2) ^ n) (rateFloor F b) ∧
    max (b.rate * (1 / 2) ^ n) (rateFloor F b) ≤ b.rate := by
  -- the branch by `if_pos`, here and in `penalty_eq`, where `simp only [okFixes, rateFloor]` would do: the equation lemmas of
  -- functions whose bodies test a string literal are slow to generate
  rw [show rateFloor F b = _ from if_pos ((Bool.and_eq_true _ _).mp hX).2, (consts hF).minRefillRate, Rat.max_def]
  split
  · exact ⟨Rat.le_refl, h.rlo⟩
  · exact ⟨Rat.le_of_lt (Rat.not_le.mp ‹_›), mul_pow_le h.r0 half_unit.1 half_unit.2 n⟩

theorem onSuccess_cases (hF : okConsts F = true) (b : TB) (now : Rat) (h : b.rate ≤ b.ideal) :
    onSuccess F b now = b ∨
    ∃ r, b.rate ≤ r ∧ r ≤ b.ideal ∧ onSuccess F b now = { b with rate := r, fails := b.fails - 1 } := by
  have := recover_bounds (k := F.recoveryFactor) h (by rw [(consts hF).recoveryFactor]; decide +kernel) rfl
  fun_cases onSuccess F b now
  · exact .inr ⟨_, this.1, this.2, rfl⟩
  · exact .inl rfl

theorem refill_inv (b : TB) (now : Rat) (h : Inv b) : Inv (refill b now) := by
  rcases refill_cases b now with ⟨_, e⟩ | ⟨h1, h2, e⟩ <;> rw [e]
  · exact h
  · exact { h with
      t0 := Std.le_min_iff.mpr ⟨h.c0, Rat.add_nonneg h.t0 (Rat.mul_nonneg (sub_nonneg (Rat.le_of_lt h2)) h.r0)⟩
      tc := Std.min_le_left
      pz := fun hc => absurd (Std.lt_of_lt_of_le hc h1) Rat.lt_irrefl }

theorem take_inv {b : TB} (h : Inv b) (ha : 1 ≤ b.tokens) : Inv { b with tokens := b.tokens - 1 } :=
  { h with
    t0 := sub_nonneg ha
    tc := Rat.sub_right_le_iff_le_add.mpr (Rat.le_trans h.tc (le_add_of_nonneg _ (by decide)))
    pz := fun hc => absurd hc (h.not_serving ha) }

theorem step_inv (F : Facts) (hF : okConsts F = true) (hX : okFixes F = true) (b : TB) (now : Rat) (e : Ev)
    (h : Inv b) : Inv (step F b now e).1 := by
  fun_cases step F b now e
  · rcases tryAcquire_cases hF b now with e | ⟨ha, e⟩ <;> rw [e]
    · exact refill_inv b now h
    · exact take_inv (refill_inv b now h) ha
  next st =>
    have hr := cut_bounds hF hX h (b.fails + 1)
    fun_cases onFailure F b now st
    · exact { h with t0 := Rat.le_refl, tc := h.c0, pz := fun _ => rfl }
    · exact { h with t0 := Rat.le_refl, tc := h.c0, pz := fun _ => rfl, rlo := hr.1, rhi := Rat.le_trans hr.2 h.rhi }
    · exact h
  · rcases onSuccess_cases hF b now h.rhi with e | ⟨r, h1, h2, e⟩ <;> rw [e]
    · exact h
    · exact { h with rlo := Rat.le_trans h.rlo h1, rhi := h2 }

/-- a 5xx only lowers the rate (and empties the bucket); a 429-class failure leaves the rate alone -/
theorem failure_rate (hF : okConsts F = true) (hX : okFixes F = true) (b : TB) (now : Rat) (st : Nat) (h : Inv b) :
    (onFailure F b now st).rate ≤ b.rate := by
  rcases onFailure_cases F b now st with e | e | e <;> rw [e]
  · exact Rat.le_refl
  · exact Rat.le_refl
  · exact (cut_bounds hF hX h _).2

theorem success_rate (hF : okConsts F = true) (b : TB) (now : Rat) (h : Inv b) :
    b.rate ≤ (onSuccess F b now).rate ∧ (onSuccess F b now).rate ≤ b.ideal := by
  rcases onSuccess_cases hF b now h.rhi with e | ⟨r, h1, h2, e⟩ <;> rw [e]
  · exact ⟨Rat.le_refl, h.rhi⟩
  · exact ⟨h1, h2⟩

/-! ### the window bound -/

/-- what the bucket could release at time `t` without a further refill: its tokens and what the configured rate adds since its
clock, capped -/
def pot (b : TB) (t : Rat) : Rat := min b.cap (b.tokens + (t - b.last) * b.ideal)

theorem pot_le_cap (b : TB) (t : Rat) : pot b t ≤ b.cap := Std.min_le_left

theorem pot_nonneg {b : TB} {t : Rat} (h : Inv b) (hl : b.last ≤ t) : 0 ≤ pot b t :=
  Std.le_min_iff.mpr ⟨h.c0, Rat.add_nonneg h.t0 (Rat.mul_nonneg (sub_nonneg hl) h.i0)⟩

theorem pot_now {b : TB} {t : Rat} (e : b.last = t) : pot b t = min b.cap b.tokens := by
  rw [pot, e, Rat.sub_self, Rat.zero_mul, Rat.add_zero]

theorem pot_take {b : TB} {t : Rat} (e : b.last = t) (h : b.tokens ≤ b.cap) :
    pot { b with tokens := b.tokens - 1 } t + 1 ≤ pot b t := by
  rw [pot_now e, pot_now (b := { b with tokens := b.tokens - 1 }) e]
  refine Rat.le_trans (Rat.add_le_add_right.mpr Std.min_le_right) ?_
  rw [Rat.sub_add_cancel]
  exact Std.le_min_iff.mpr ⟨h, Rat.le_refl⟩

theorem pot_time {b : TB} {t t' : Rat} (h : Inv b) (htt : t ≤ t') : pot b t' ≤ pot b t + (t' - t) * b.ideal := by
  rw [pot, sub_mul_split t' t, ← Rat.add_assoc]
  exact min_add_le (Rat.mul_nonneg (sub_nonneg htt) h.i0)

theorem pot_mono {b b' : TB} {t : Rat} (hc : b'.cap = b.cap) (hi : b'.ideal = b.ideal) (hl : b'.last = b.last)
    (ht : b'.tokens ≤ b.tokens) : pot b' t ≤ pot b t := by
  rw [pot, pot, hc, hi, hl]
  exact min_le_min_left (Rat.add_le_add_right.mpr ht)

/-- the conclusion of `step_pot` for a step that releases nothing: `if false = true …` is what the released flag reduces to -/
theorem quiet_pot {b b' : TB} {t : Rat} (hl : b'.last ≤ t) (hi : b'.ideal = b.ideal) (hp : pot b' t ≤ pot b t) :
    b'.last ≤ t ∧ b'.ideal = b.ideal ∧ pot b' t + ((if false = true then 1 else 0 : Nat) : Rat) ≤ pot b t :=
  ⟨hl, hi, by rwa [if_neg Bool.false_ne_true, Rat.natCast_ofNat, Rat.add_zero]⟩

/-- the last part: a bucket that `refill` leaves unchanged and that holds a token is not serving a penalty, so time has not passed
since its clock -/
theorem refill_pot {b : TB} {t : Rat} (h : Inv b) (hl : b.last ≤ t) :
    (refill b t).last ≤ t ∧ (refill b t).ideal = b.ideal ∧ pot (refill b t) t ≤ pot b t ∧
    (1 ≤ (refill b t).tokens → (refill b t).last = t) := by
  rcases refill_cases b t with ⟨hc, e⟩ | ⟨-, h2, e⟩ <;> rw [e]
  · refine ⟨hl, rfl, Rat.le_refl, fun hp => ?_⟩
    have hnp := h.not_serving hp
    rw [TB.base, if_neg hnp] at hc
    exact Rat.le_antisymm hl (hc.resolve_left fun hc' => hnp (Std.lt_of_le_of_lt hl hc'))
  · refine ⟨Rat.le_refl, rfl, ?_, fun _ => rfl⟩
    rw [pot_now rfl]
    exact Rat.le_trans Std.min_le_right (min_le_min_left (Rat.add_le_add_left.mpr
      (mul_le_mul (sub_nonneg (Rat.le_of_lt h2)) (sub_le_sub_left b.last_le_base t) h.r0 h.rhi)))

theorem step_pot (hF : okConsts F = true) {b : TB} {t : Rat} (e : Ev) (h : Inv b) (hl : b.last ≤ t) :
    (step F b t e).1.last ≤ t ∧ (step F b t e).1.ideal = b.ideal ∧
    pot (step F b t e).1 t + ((if (step F b t e).2 then 1 else 0 : Nat) : Rat) ≤ pot b t := by
  fun_cases step F b t e
  · obtain ⟨h1, h2, h3, h4⟩ := refill_pot h hl
    rcases tryAcquire_cases hF b t with e | ⟨ha, e⟩ <;> rw [e]
    · exact quiet_pot h1 h2 h3
    · exact ⟨h1, h2, Rat.le_trans (pot_take (h4 ha) (refill_inv b t h).tc) h3⟩
  next st =>
    fun_cases onFailure F b t st
    · exact quiet_pot hl rfl (pot_mono rfl rfl rfl h.t0)
    · exact quiet_pot hl rfl (pot_mono rfl rfl rfl h.t0)
    · exact quiet_pot hl rfl Rat.le_refl
  · -- `pot` does not look at the rate or the failure count
    fun_cases onSuccess F b t <;> exact quiet_pot hl rfl Rat.le_refl

/-- the events come in the order of their times, all within `[t0, tEnd]`; `TimedLt`: within `[t0, tEnd)` -/
def Timed (t0 tEnd : Rat) : List (Rat × Ev) → Prop
  | [] => True
  | (t, _) :: rest => t0 ≤ t ∧ t ≤ tEnd ∧ Timed t tEnd rest

def TimedLt (t0 tEnd : Rat) : List (Rat × Ev) → Prop
  | [] => True
  | (t, _) :: rest => t0 ≤ t ∧ t < tEnd ∧ TimedLt t tEnd rest

theorem run_bound (hF : okConsts F = true) (hX : okFixes F = true) {evs : List (Rat × Ev)}
    {b : TB} {t0 tEnd : Rat} (h : Inv b) (hl : b.last ≤ t0) (ht : Timed t0 tEnd evs) (hte : t0 ≤ tEnd) :
    ((run F b evs).2 : Rat) ≤ pot b t0 + (tEnd - t0) * b.ideal := by
  induction evs generalizing b t0 with
  | nil => exact Rat.add_nonneg (pot_nonneg h hl) (Rat.mul_nonneg (sub_nonneg hte) h.i0)
  | cons te rest ih =>
    obtain ⟨t, e⟩ := te
    obtain ⟨h0, h1, hrest⟩ := ht
    obtain ⟨hs1, hs2, hs3⟩ := step_pot hF e h (Rat.le_trans hl h0)
    have hih := ih (step_inv F hF hX b t e h) hs1 hrest h1
    rw [hs2] at hih
    simp only [run]
    rw [Rat.natCast_add, sub_mul_split tEnd t t0, ← Rat.add_assoc]
    -- the potential before the step pays for this release and for the potential after it (`hs3`), and is at most the one at
    -- `t0` plus the refill until `t`; the rest releases at most the potential after the step plus the refill until `tEnd`
    refine Rat.le_trans ?_ (Rat.add_le_add_right.mpr (Rat.le_trans hs3 (pot_time h h0)))
    rw [Rat.add_assoc, Rat.add_comm _ ((tEnd - t) * b.ideal), ← Rat.add_assoc]
    exact Rat.add_le_add_right.mpr hih

/-- **Window bound.** Whatever happened before, over any window `[a, a + T]` the limiter releases at
most `capacity + T × configured-rate` requests, for every sequence of events and timings in it. -/
theorem window_bound (hF : okConsts F = true) (hX : okFixes F = true) {evs : List (Rat × Ev)}
    {b : TB} {a T : Rat} (h : Inv b) (hl : b.last ≤ a) (hT : 0 ≤ T) (ht : Timed a (a + T) evs) :
    ((run F b evs).2 : Rat) ≤ b.cap + T * b.ideal := by
  have := run_bound hF hX h hl ht (le_add_of_nonneg a hT)
  rw [Rat.add_comm a T, Rat.add_sub_cancel] at this
  exact Rat.le_trans this (Rat.add_le_add_right.mpr (pot_le_cap b a))

/-! ### penalties -/

theorem penalty_eq (hF : okConsts F = true) (hX : okFixes F = true) (n : Nat) :
    penalty F n = nsToSec (min ((5000000000 : Int) * 2 ^ (n - 1)) 30000000000) := by
  rw [show penalty F n = _ from if_pos ((Bool.and_eq_true _ _).mp hX).1, (consts hF).maxPenaltyNs, (consts hF).basePenaltyNs]
  rfl

theorem nsToSec_mono {a b : Int} (h : a ≤ b) : nsToSec a ≤ nsToSec b := by
  unfold nsToSec
  rw [Rat.div_def, Rat.div_def]
  exact Rat.mul_le_mul_of_nonneg_right (Rat.intCast_le_intCast.mpr h) (Rat.le_of_lt (Rat.inv_pos.mpr (by decide)))

theorem nsToSec_nonneg {a : Int} (h : 0 ≤ a) : 0 ≤ nsToSec a := by
  simpa [nsToSec, Rat.div_def] using nsToSec_mono h

theorem penalty_nonneg (F : Facts) (hF : okConsts F = true) (hX : okFixes F = true) (n : Nat) :
    0 ≤ penalty F n := by
  rw [penalty_eq hF hX]
  exact nsToSec_nonneg (Std.le_min_iff.mpr ⟨Int.mul_nonneg (by decide) (Int.pow_nonneg (by decide)), by decide⟩)

theorem penalty_mono (hF : okConsts F = true) (hX : okFixes F = true) {n m : Nat} (h : n ≤ m) :
    penalty F n ≤ penalty F m := by
  rw [penalty_eq hF hX, penalty_eq hF hX]
  have : (2 : Int) ^ (n - 1) ≤ 2 ^ (m - 1) := Int.ofNat_le.mpr (Nat.pow_le_pow_right (by decide) (Nat.sub_le_sub_right h 1))
  exact nsToSec_mono (Std.le_min_iff.mpr
    ⟨Int.le_trans Std.min_le_left (Int.mul_le_mul_of_nonneg_left this (by decide)), Std.min_le_right⟩)

/-- a bucket serving a penalty that lasts at least until `u`, after at least `n` failures -/
structure Serving (b : TB) (u : Rat) (n : Nat) : Prop where
  empty : b.tokens = 0
  pen : u ≤ b.pen
  fails : n ≤ b.fails

/-- `hu`: a further penalty set at `t` ends at `u` or later, so the bucket keeps serving -/
theorem serving_step (hF : okConsts F = true) (hX : okFixes F = true) {b : TB} {u t : Rat} {n : Nat} (e : Ev)
    (hs : Serving b u n) (hu : u ≤ t + penalty F n) (hlt : t < u) :
    Serving (step F b t e).1 u n ∧ (step F b t e).2 = false := by
  have hpen : t < b.pen := Std.lt_of_lt_of_le hlt hs.pen
  fun_cases step F b t e
  · have hr : refill b t = b := if_pos hpen
    rcases tryAcquire_cases hF b t with e | ⟨ha, e⟩
    · rw [e, hr]
      exact ⟨hs, rfl⟩
    · rw [hr, hs.empty] at ha
      exact absurd ha (by decide)
  next st =>
    have hf := Nat.le_succ_of_le hs.fails
    fun_cases onFailure F b t st
    · exact ⟨⟨rfl, Rat.le_trans hu (Rat.add_le_add_left.mpr (penalty_mono hF hX hf)), hf⟩, rfl⟩
    · exact ⟨⟨rfl, hs.pen, hf⟩, rfl⟩
    · exact ⟨hs, rfl⟩
  · fun_cases onSuccess F b t
    · exact absurd (Std.lt_trans ‹_› hpen) Rat.lt_irrefl
    · exact ⟨hs, rfl⟩

theorem serving_run (hF : okConsts F = true) (hX : okFixes F = true) {u s : Rat} {n : Nat} {b : TB}
    {evs : List (Rat × Ev)} (hs : Serving b u n) (hu : u ≤ s + penalty F n) (ht : TimedLt s u evs) :
    (run F b evs).2 = 0 := by
  induction evs generalizing b s with
  | nil => rfl
  | cons te rest ih =>
    obtain ⟨t, e⟩ := te
    obtain ⟨h0, h1, hrest⟩ := ht
    have hu' : u ≤ t + penalty F n := Rat.le_trans hu (Rat.add_le_add_right.mpr h0)
    have hst := serving_step hF hX e hs hu' h1
    simp only [run, hst.2, Bool.false_eq_true, if_false, Nat.add_zero]
    exact ih hst.1 hu' hrest

theorem penalty_honoured (hF : okConsts F = true) (hX : okFixes F = true) {b : TB} {t0 : Rat}
    {st : Nat} (hst : isPenalised F st = true) {evs : List (Rat × Ev)}
    (ht : TimedLt t0 (t0 + penalty F (b.fails + 1)) evs) :
    (run F (onFailure F b t0 st) evs).2 = 0 := by
  refine serving_run hF hX ?_ Rat.le_refl ht
  rw [show onFailure F b t0 st = _ from if_pos hst]
  exact ⟨rfl, Rat.le_refl, Nat.le_refl _⟩

/-! ### the bucket table -/

def minFold (tbl : List MB) (a : Nat) : Nat := tbl.foldl (fun acc e => if e.usage < acc then e.usage else acc) a

/-- `minFold` is the least of `a` and the usage counts, as `List.min?` has it -/
theorem minFold_eq (tbl : List MB) (a : Nat) : (a :: tbl.map (·.usage)).min? = some (minFold tbl a) := by
  rw [List.min?_cons', minFold, List.foldl_map]
  congr; funext acc e
  simp only [Nat.min_def, ← Nat.not_le, ite_not]

/-- an entry with a usage count below MaxInt32 and a host other than the empty string can be evicted -/
theorem evict_eq {tbl : List MB} (h : ∀ e ∈ tbl, e.usage < 2147483647 ∧ e.host ≠ "") (hne : tbl ≠ []) :
    ∃ i, i < tbl.length ∧ evictLFU tbl = tbl.eraseIdx i := by
  obtain ⟨h1, h3⟩ := List.min?_eq_some_iff.mp (minFold_eq tbl 2147483647)
  obtain ⟨x, hx⟩ := List.exists_mem_of_ne_nil tbl hne
  -- the fold ends below its start value MaxInt32 (`hm`), hence at the usage count of an entry (`hex`)
  have hm := Nat.ne_of_lt (Nat.lt_of_le_of_lt (h3 _ (List.mem_cons_of_mem _ (List.mem_map_of_mem hx))) (h x hx).1)
  have hex : ∃ e ∈ tbl, (e.usage == minFold tbl 2147483647) = true :=
    (List.mem_map.mp ((List.mem_cons.mp h1).resolve_left hm)).imp fun e he => ⟨he.1, beq_iff_eq.mpr he.2⟩
  have hlt := List.findIdx_lt_length_of_exists hex
  refine ⟨_, hlt, ?_⟩
  rw [evictLFU.eq_2 _ hne, ← minFold, if_neg hm, List.findIdx?_eq_some_of_exists hex]
  simp only [List.getElem?_eq_getElem hlt, beq_eq_false_iff_ne.mpr (h _ (List.getElem_mem hlt)).2, Bool.false_eq_true, if_false]

/-- at most `max m 1` entries, each with a usage count of at most `k` (the accesses so far) and a non-empty host -/
def TInv (m k : Nat) (tbl : List MB) : Prop := tbl.length ≤ max m 1 ∧ ∀ e ∈ tbl, e.usage ≤ k ∧ e.host ≠ ""

theorem getBucket_inv (hF : okTable F = true) {m k : Nat} {tbl : List MB} {host : String} (hh : host ≠ "")
    (hk : k < 2147483647) (h : TInv m k tbl) : TInv m (k + 1) (getBucket F m tbl host) := by
  obtain ⟨hl, hu⟩ := h
  have hu' : ∀ e ∈ tbl, e.usage ≤ k + 1 ∧ e.host ≠ "" := fun e he => (hu e he).imp_left Nat.le_succ_of_le
  -- a miss appends the new entry to a part `t` of the table that leaves room for it
  have key : ∀ t : List MB, t.length < max m 1 → t ⊆ tbl → TInv m (k + 1) (t ++ [{ host := host, usage := 1 }]) :=
    fun t hl ht => ⟨by rwa [List.length_append], List.forall_mem_append.mpr
      ⟨fun e he => hu' e (ht he), List.forall_mem_singleton.mpr ⟨Nat.succ_le_succ (Nat.zero_le k), hh⟩⟩⟩
  fun_cases getBucket F m tbl host
  next =>
    refine ⟨by rwa [List.length_map], List.forall_mem_map.mpr fun e he => ?_⟩
    split
    · exact (hu e he).imp_left Nat.succ_le_succ
    · exact hu' e he
  next t =>
    simp only [okTable, Bool.and_eq_true, beq_iff_eq] at hF
    simp only [t, hF, Cmp.eval, decide_eq_true_eq]
    split
    · by_cases hne : tbl = []
      · subst hne
        exact key [] (Nat.le_max_right m 1) (List.nil_subset _)
      · obtain ⟨i, hi, e⟩ := evict_eq (fun e he => (hu e he).imp_left (Nat.lt_of_le_of_lt · hk)) hne
        rw [e]
        exact key _ (List.length_eraseIdx_of_lt hi ▸ Nat.sub_one_lt_of_le (Nat.zero_lt_of_lt hi) hl) List.eraseIdx_subset
    · exact key _ (Nat.lt_of_lt_of_le (Nat.not_le.mp ‹_›) (Nat.le_max_left ..)) (List.Subset.refl _)

/-- **The limiter table stays within its bound** for every access sequence (hosts non-empty, fewer
than 2^31 − 1 accesses in total — beyond that a usage count could reach MaxInt32 and stop being
evictable). -/
theorem table_bounded (hF : okTable F = true) (m : Nat) (hosts : List String) (tbl : List MB) (k : Nat)
    (hh : ∀ x ∈ hosts, x ≠ "") (hk : k + hosts.length < 2147483647) (ht : TInv m k tbl) :
    (hosts.foldl (getBucket F m) tbl).length ≤ max m 1 := by
  induction hosts generalizing tbl k with
  | nil => exact ht.1
  | cons x xs ih =>
    rw [List.forall_mem_cons] at hh
    exact ih _ (k + 1) hh.2 (by rwa [Nat.add_right_comm])
      (getBucket_inv hF hh.1 (Nat.lt_of_le_of_lt (Nat.le_add_right k _) hk) ht)

end Zeno.Model.RateLimiter
