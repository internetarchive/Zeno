import Zeno.Model.Resolve
/-!
What "resolved as the URL standard prescribes" means structurally. `Norm p`: the path `p` starts at the root and has no
dot segment. The buffer of `removeDots` keeps `Norm`, a path without dot segments is a fixed point of `removeDots`, and
`resolve` is read field by field. From these: `resolve_path`, `resolve_idem`.
-/
namespace Zeno.Model.Resolve

/-! ### used in the statements of Props/C09 -/

def NoDots (l : List String) : Prop := ∀ s ∈ l, s ≠ "." ∧ s ≠ ".."

/-- the references the crawler meets: one that has an authority or a scheme has an absolute path or none, i.e. its first segment
is `""` (the empty path is `[""]`). Only a reference with neither may be path-relative. -/
def WfRef (r : Ref) : Prop := (r.auth.isSome = true ∨ r.scheme.isSome = true) → r.path.head? = some ""

/-! ### `Norm` and `removeDots` -/

theorem NoDots.append {a b : List String} (ha : NoDots a) (hb : NoDots b) : NoDots (a ++ b) :=
  List.forall_mem_append.2 ⟨ha, hb⟩

def Norm (p : List String) : Prop := NoDots p ∧ p.head? = some ""

theorem Norm.root : Norm [""] := ⟨List.forall_mem_singleton.2 (by decide), rfl⟩

theorem Norm.pop {out : List String} (h : Norm out) : Norm (pop out) := by
  fun_cases Resolve.pop out
  · exact h
  · next hl =>
    exact ⟨fun s hs => h.1 s (List.dropLast_subset _ hs), by rw [List.head?_dropLast, if_pos (Nat.lt_of_not_le hl), h.2]⟩

theorem Norm.snoc {out : List String} {s : String} (h : Norm out) (h1 : s ≠ ".") (h2 : s ≠ "..") : Norm (out ++ [s]) :=
  ⟨h.1.append (List.forall_mem_singleton.2 ⟨h1, h2⟩), by rw [List.head?_append, h.2]; rfl⟩

/-- the buffer of §5.2.4 only ever pops a segment or pushes one that is no dot segment -/
theorem rdGo_norm {out inp : List String} (h : Norm out) : Norm (rdGo out inp) := by
  fun_induction rdGo out inp with
  | case1 => exact h
  | case2 => exact h.snoc (by decide) (by decide)
  | case3 => exact h.pop.snoc (by decide) (by decide)
  | case4 out s h1 h2 => exact h.snoc (mt beq_iff_eq.2 h1) (mt beq_iff_eq.2 h2)
  | case5 _ _ _ _ _ ih => exact ih h
  | case6 _ _ _ _ _ _ ih => exact ih h.pop
  | case7 _ s _ _ h1 h2 ih => exact ih (h.snoc (mt beq_iff_eq.2 h1) (mt beq_iff_eq.2 h2))

theorem rdGo_cons {out rest : List String} {s : String} (h1 : s ≠ ".") (h2 : s ≠ "..") :
    rdGo out (s :: rest) = rdGo (out ++ [s]) rest := by
  cases rest <;> simp [rdGo, h1, h2]

theorem rdGo_of_noDots {out inp : List String} (h : NoDots inp) : rdGo out inp = out ++ inp := by
  induction inp generalizing out with
  | nil => simp [rdGo]
  | cons s rest ih =>
    obtain ⟨⟨h1, h2⟩, hr⟩ := List.forall_mem_cons.1 h
    rw [rdGo_cons h1 h2, ih hr, List.append_assoc, List.singleton_append]

theorem removeDots_norm {p : List String} (habs : p.head? = some "") : Norm (removeDots p) := by
  match p, habs with
  | _ :: rest, rfl =>
    simp only [removeDots]
    split
    · exact Norm.root
    · exact rdGo_norm Norm.root

theorem removeDots_of_noDots {p : List String} (h : NoDots p) : removeDots p = p := by
  fun_cases removeDots p
  · next h0 => rw [List.isEmpty_iff.1 h0]
  · exact rdGo_of_noDots (List.forall_mem_cons.1 h).2
  · rfl

theorem removeDots_idem (p : List String) (habs : p.head? = some "") : removeDots (removeDots p) = removeDots p :=
  removeDots_of_noDots (removeDots_norm habs).1

theorem rootIfEmpty_norm {p : List String} (h : Norm p) : Norm (rootIfEmpty p) := by
  fun_cases rootIfEmpty p
  · exact ⟨by unfold NoDots; decide, rfl⟩
  · exact h

theorem rootIfEmpty_ne (p : List String) : rootIfEmpty p ≠ [""] := by
  fun_cases rootIfEmpty p
  · nofun
  · next h => simpa using h

theorem Norm.fixed {p : List String} (h : Norm p) (hne : p ≠ [""]) : rootIfEmpty (removeDots p) = p := by
  rw [removeDots_of_noDots h.1, rootIfEmpty, if_neg (by simpa using hne)]

/-! ### `resolve`, field by field -/

/-- the path `resolve` normalises: the reference's own, the page's, or the two merged -/
def target (b r : Ref) : List String :=
  if r.scheme.isSome then r.path
  else if r.auth.isSome then r.path
  else if r.path == [""] then b.path
  else if r.path.head? == some "" then r.path
  else merge b r.path

theorem resolve_path_eq (b r : Ref) : (resolve b r).path = rootIfEmpty (removeDots (target b r)) := by
  simp only [resolve, target, apply_ite Ref.path, apply_ite rootIfEmpty, apply_ite removeDots]

theorem resolve_scheme (b r : Ref) : (resolve b r).scheme = if r.scheme.isSome then r.scheme else b.scheme := by
  simp only [resolve, apply_ite Ref.scheme, ite_self]

theorem resolve_auth (b r : Ref) :
    (resolve b r).auth = if r.scheme.isSome then r.auth else if r.auth.isSome then r.auth else b.auth := by
  simp only [resolve, apply_ite Ref.auth, ite_self]

theorem resolve_query (b r : Ref) :
    (resolve b r).query =
      if r.scheme.isSome then r.query else if r.auth.isSome then r.query
      else if r.path == [""] then (if r.query.isSome then r.query else b.query) else r.query := by
  simp only [resolve, apply_ite Ref.query, ite_self]

theorem merge_head (b : Ref) {rp : List String} (ha : b.auth.isSome = true) (hp : b.path.head? = some "") :
    (merge b rp).head? = some "" := by
  fun_cases merge b rp
  · rfl
  · next hm =>
    rw [ha, Bool.true_and] at hm
    match hb : b.path, hp with
    | [_], rfl => exact absurd (beq_iff_eq.2 hb) hm
    | _ :: _ :: _, rfl => rfl

theorem target_abs (b r : Ref) (hb : b.auth.isSome = true) (hbp : b.path.head? = some "") (hr : WfRef r) :
    (target b r).head? = some "" := by
  fun_cases target b r
  · next h => exact hr (.inr h)
  · next h => exact hr (.inl h)
  · exact hbp
  · next h => simpa using h
  · exact merge_head b hb hbp

/-- **No dot segment survives resolution**, and the resolved path starts at the root -/
theorem resolve_path (b r : Ref) (hb : b.auth.isSome = true) (hbp : b.path.head? = some "") (hr : WfRef r) :
    NoDots (resolve b r).path ∧ (resolve b r).path.head? = some "" :=
  resolve_path_eq b r ▸ rootIfEmpty_norm (removeDots_norm (target_abs b r hb hbp hr))

/-- **resolving the result again changes nothing** (the canonical form is a fixed point) -/
theorem resolve_idem (b r : Ref) (hb : b.auth.isSome = true) (hbs : b.scheme.isSome = true) (hbp : b.path.head? = some "") (hr : WfRef r) :
    resolve b (resolve b r) = resolve b r := by
  have hsch : (resolve b r).scheme.isSome = true := by rw [resolve_scheme]; split <;> assumption
  have hfix : rootIfEmpty (removeDots (resolve b r).path) = (resolve b r).path :=
    Norm.fixed (resolve_path b r hb hbp hr) (resolve_path_eq b r ▸ rootIfEmpty_ne _)
  -- the result names its scheme, so resolving again takes the first branch: only the path is recomputed, and it is a
  -- fixed point (`hfix`)
  generalize resolve b r = T at *
  simp only [resolve, hsch, if_true, hfix]

end Zeno.Model.Resolve
