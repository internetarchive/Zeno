import Zeno.Proofs.Life
/-!
"Embedded resources are fetched at most three levels below the page": in the ranked trees of a seed's life (`Start`), the asset
level of every node — the number of asset edges (`redirects = 0`) on its path from the seed, redirects not counted — is at most 3,
and every redirect chain is at most `max-redirect` long.
-/
namespace Zeno.Model.Life
open Zeno.Model.Item

mutual
/-- (asset level, redirects) of every node, in traversal order -/
def _root_.Zeno.Model.Item.Tree.levelsAndChains (a : Nat) (pst : Option Status) : Tree → List (Nat × Nat)
  | .node i k => (aLevel pst a i, i.redirects) :: k.levelsAndChains (aLevel pst a i) i.st
def _root_.Zeno.Model.Item.Forest.levelsAndChains (a : Nat) (pst : Status) : Forest → List (Nat × Nat)
  | .nil => []
  | .cons t f => t.levelsAndChains a (some pst) ++ f.levelsAndChains a pst
end

mutual
theorem Tree.rk_levels (R a pr : Nat) (pst : Option Status) (t : Tree) (h : t.rk R a pr pst = true) :
    ∀ x ∈ t.levelsAndChains a pst, x.1 ≤ 3 ∧ x.2 ≤ R := by
  cases t with
  | node i k =>
    obtain ⟨h1, h2⟩ := Bool.and_eq_true_iff.1 h
    exact List.forall_mem_cons.2 ⟨rkNode_le h1, Forest.rk_levels R _ _ i.st k h2⟩
theorem Forest.rk_levels (R a pr : Nat) (pst : Status) (f : Forest) (h : f.rk R a pr pst = true) :
    ∀ x ∈ f.levelsAndChains a pst, x.1 ≤ 3 ∧ x.2 ≤ R := by
  cases f with
  | nil => exact List.forall_mem_nil _
  | cons t f =>
    exact List.forall_mem_append.2 ((Bool.and_eq_true_iff.1 h).imp (Tree.rk_levels R a pr (some pst) t) (Forest.rk_levels R a pr pst f))
end

theorem start_levels {R d : Nat} {t : Tree} (h : Start R d t) : ∀ x ∈ t.levelsAndChains 0 none, x.1 ≤ 3 ∧ x.2 ≤ R :=
  Tree.rk_levels R 0 0 none t h.rank

end Zeno.Model.Life
