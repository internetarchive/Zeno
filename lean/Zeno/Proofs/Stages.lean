import Zeno.Proofs.Sim
import Zeno.Proofs.Seencheck
import Zeno.Model.Scope
/-!
The stage functions in closed form, and what follows from the closed forms alone: `requests_in_scope` (C05), the bounds
on redirects, hops and depth (C06), `closeBodies` (C16).
-/
namespace Zeno.Model.Stages
open Zeno.Model.Item Zeno.Model.Scope

def ids (l : List Info) : List String := l.map (·.id)

theorem Tree.atLevel_setNorm (ks : List (String × NormRes)) (t : Tree) (n : Nat) :
    (t.setNorm ks).atLevel n = (t.atLevel n).map (normInfo ks) := by
  simpa using ((Tree.sim_setNorm ks 0 t).atLevel n).map_eq id (normInfo ks) (fun _ _ h => h)

theorem Tree.atLevel_setStatuses (l : List String) (s : Status) (rq : Bool) (t : Tree) (n : Nat) :
    (t.setStatuses l s rq).atLevel n = (t.atLevel n).map (stamp l s rq) := by
  simpa using ((Tree.sim_setStatuses l s rq 0 t).atLevel n).map_eq id (stamp l s rq) (fun _ _ h => h)

theorem Tree.atLevel_archive (srv : String → Option Outcome) (d lvl : Nat) (t : Tree) (n : Nat) :
    (t.archive srv d lvl).atLevel n = (t.atLevel n).map (archInfo srv (lvl + n == d)) := by
  simpa using ((Tree.sim_archive srv d lvl t).atLevel n).map_eq id (archInfo srv (lvl + n == d)) (fun _ _ h => h)

theorem Tree.atLevel_mark_ids (F : IF) (t : Tree) (n : Nat) : ids ((t.mark F).atLevel n) = ids (t.atLevel n) :=
  ((Tree.sim_mark F 0 t).atLevel n).map_eq _ _ (fun _ _ e => (mark_relab F e).id)

theorem Tree.atLevel_setStatuses_ids (l : List String) (s : Status) (rq : Bool) (t : Tree) (n : Nat) :
    ids ((t.setStatuses l s rq).atLevel n) = ids (t.atLevel n) :=
  ((Tree.sim_setStatuses l s rq 0 t).atLevel n).map_eq _ _ (fun i _ e => e ▸ (stamp_relab l s rq i).id)
theorem Forest.atLevel_setStatuses_ids (l : List String) (s : Status) (rq : Bool) (f : Forest) (n : Nat) :
    ids ((f.setStatuses l s rq).atLevel n) = ids (f.atLevel n) :=
  ((Forest.sim_setStatuses l s rq 0 f).atLevel n).map_eq _ _ (fun i _ e => e ▸ (stamp_relab l s rq i).id)

theorem dedupe_level_ids (F : IF) (t : Tree) (n : Nat) :
    ∀ x ∈ ids ((dedupe F t).atLevel (n + 1)), x ∈ ids (t.atLevel (n + 1)) := by
  intro x hx
  rw [dedupe, Tree.atLevel_mark_ids] at hx
  exact ((Tree.atLevel_prune_sublist _ t (n + 1)).map _).subset hx

/-! ### the first loop of `preprocess` -/

theorem verdict_spec (cfg : Cfg) (norm : String → Option NormRes) (t : Tree) (i : Info) :
    match verdict cfg norm t i with
    | .panic => i.st ≠ .fresh
    | .keep r => i.st = .fresh ∧ norm i.id = some r ∧ passesFilters cfg r = true
    | .remove => i.st = .fresh ∧ (t.parentStatus i.id).isSome = true
    | .stop st => i.st = .fresh ∧ (st = .failed ∨ st = .completed) ∧
        t.parentStatus i.id ≠ some .gotChildren ∧ t.parentStatus i.id ≠ some .gotRedirected := by
  have hf : ¬(i.st != Status.fresh) = true → i.st = .fresh := by simp
  have hsome {s : Status} (h : (t.parentStatus i.id == some s) = true) : (t.parentStatus i.id).isSome = true :=
    Option.isSome_of_eq_some (beq_iff_eq.1 h)
  -- the seven exits of `verdict`, in the order of its definition
  fun_cases verdict cfg norm t i
  next h => exact bne_iff_ne.1 h
  next hp => exact ⟨hf ‹_›, .inl rfl, by simp [(Option.isNone_iff_eq_none.1 hp : t.parentStatus i.id = none)]⟩
  next hp => exact ⟨hf ‹_›, Option.isNone_eq_false_iff.1 (Bool.eq_false_iff.2 hp)⟩
  next hp => exact ⟨hf ‹_›, (Bool.or_eq_true_iff.1 hp).elim hsome hsome⟩
  next hp => exact ⟨hf ‹_›, .inr rfl, by simpa +zetaDelta using hp⟩
  next hc => exact ⟨hf ‹_›, hsome (Bool.and_eq_true_iff.1 hc).1⟩
  next hpass _ => exact ⟨hf ‹_›, ‹_›, by simpa using hpass⟩

/-- the verdicts after which the first loop goes on -/
def Verdict.quiet : Verdict → Bool
  | .keep _ | .remove => true
  | _ => false

section scan
variable (cfg : Cfg) (norm : String → Option NormRes) (t : Tree) (items : List Info)

theorem scan_flag_eq :
    (scan cfg norm t items).2.2 = (items.find? fun i => !(verdict cfg norm t i).quiet).map (verdict cfg norm t) := by
  induction items with
  | nil => rfl
  | cons x xs ih =>
    rw [scan, List.find?_cons]
    cases hv : verdict cfg norm t x with
    | keep r => exact ih
    | remove => exact ih
    | panic => exact congrArg some hv.symm
    | stop st => exact congrArg some hv.symm

theorem scan_none_iff :
    (scan cfg norm t items).2.2 = none ↔ ∀ i ∈ items, (verdict cfg norm t i).quiet = true := by
  simp [scan_flag_eq]

theorem scan_quiet (h : ∀ i ∈ items, (verdict cfg norm t i).quiet = true) :
    scan cfg norm t items =
      ((items.filter fun i => match verdict cfg norm t i with | .remove => true | _ => false).map (·.id),
       items.filterMap fun i => match verdict cfg norm t i with | .keep r => some (i.id, r) | _ => none,
       none) := by
  induction items with
  | nil => rfl
  | cons x xs ih =>
    rw [List.forall_mem_cons] at h
    rw [scan, ih h.2, List.filter_cons, List.filterMap_cons]
    generalize verdict cfg norm t x = v at h
    cases v with
    | keep r => rfl
    | remove => rfl
    | panic => cases h.1
    | stop st => cases h.1

end scan

theorem scan_kept {cfg : Cfg} {norm : String → Option NormRes} {t : Tree} {items : List Info}
    (h : (scan cfg norm t items).2.2 = none) {i : Info} (hi : i ∈ items) (hrm : i.id ∉ (scan cfg norm t items).1) :
    ∃ r, norm i.id = some r ∧ passesFilters cfg r = true := by
  rw [scan_none_iff] at h
  rw [scan_quiet cfg norm t items h] at hrm
  have hq := h i hi
  have hs := verdict_spec cfg norm t i
  generalize hv : verdict cfg norm t i = v at hq hs
  cases v with
  | keep r => exact ⟨r, hs.2⟩
  | remove => exact absurd (List.mem_map_of_mem (List.mem_filter.2 ⟨hi, by rw [hv]⟩)) hrm
  | panic => cases hq
  | stop st => cases hq

/-! ### the tail of `preprocess` -/

/-- the answer of the seen-store in use: its new state, the ids it reports as seen -/
def storeAnswer (S : SF) (cfg : Cfg) (seen : Seen) (t2 : Tree) (d : Nat) : Seen × List String :=
  if cfg.useHQ then hqSeencheck S t2 (t2.atLevel d) seen
  else if cfg.useSeencheck then seencheck t2 (t2.atLevel d) seen else (seen, [])

/-- `preTail`, flat: the only place where it is unfolded -/
theorem preTail_eq (S : SF) (cfg : Cfg) (seen : Seen) (t2 : Tree) (d : Nat) :
    preTail S cfg seen t2 d =
      if (t2.atLevel d).isEmpty then (setRoot t2 .completed, seen, [], .ok)
      else if !cfg.useHQ && S.preSeencheckGuard == "always" && !cfg.useSeencheck then (t2, seen, [], .crash)
      else finalStep t2 (storeAnswer S cfg seen t2 d) d := by
  unfold preTail storeAnswer
  cases cfg.useHQ
  · cases cfg.useSeencheck <;> cases (S.preSeencheckGuard == "always") <;> rfl
  · rfl

theorem finalStep_requests (t2 : Tree) (sr : Seen × List String) (d : Nat) :
    (finalStep t2 sr d).2.2.1 = (((t2.setStatuses sr.2 .seen false).atLevel d).filter (fun i => i.st == .fresh)).map (·.id) := by
  fun_cases finalStep t2 sr d
  next h => exact (List.map_eq_nil_iff.2 (List.isEmpty_iff.1 h)).symm
  next => rfl

theorem mem_finalStep {t2 : Tree} {sr : Seen × List String} {d : Nat} {x : String} (h : x ∈ (finalStep t2 sr d).2.2.1) :
    x ∉ sr.2 ∧ ∃ i ∈ t2.atLevel d, i.id = x ∧ i.st = .fresh := by
  simp only [finalStep_requests, Tree.atLevel_setStatuses, List.mem_map, List.mem_filter, beq_iff_eq] at h
  obtain ⟨_, ⟨⟨i, hi, rfl⟩, hf⟩, rfl⟩ := h
  -- a node the store reported is marked seen, not fresh
  revert hf
  fun_cases stamp sr.2 .seen false i
  next => nofun
  next hc => exact fun hf => ⟨by simpa using hc, i, hi, rfl, hf⟩

theorem mem_preTail {S : SF} {cfg : Cfg} {seen : Seen} {t2 : Tree} {d : Nat} {x : String}
    (h : x ∈ (preTail S cfg seen t2 d).2.2.1) : x ∈ (finalStep t2 (storeAnswer S cfg seen t2 d) d).2.2.1 := by
  rw [preTail_eq] at h
  split at h
  · cases h
  · split at h
    · cases h
    · exact h

theorem preTail_ids {S : SF} {cfg : Cfg} {seen : Seen} {t2 : Tree} {d : Nat} :
    ∀ x ∈ (preTail S cfg seen t2 d).2.2.1, x ∈ ids (t2.atLevel d) := fun _ hx =>
  let ⟨_, i, hi, e, _⟩ := mem_finalStep (mem_preTail hx)
  List.mem_map.2 ⟨i, hi, e⟩

/-- **Only in-scope URLs get a request**: each was normalised by the URL normaliser and passed the operator's include /
exclude filters with exactly that normalised URL. -/
theorem requests_in_scope (S : SF) (I : IF) (cfg : Cfg) (norm : String → Option NormRes) (seen : Seen) (t : Tree)
    (hd : 0 < t.maxDepth) :
    ∀ x ∈ (preCore S I cfg norm seen t).2.2.1, ∃ r, norm x = some r ∧ passesFilters cfg r = true := by
  fun_cases preCore S I cfg norm seen t
  case case4 d sc t1 hstop =>
    have hd : 0 < d := hd
    clear_value d
    obtain ⟨n, rfl⟩ := Nat.exists_eq_add_one.2 hd
    intro x hx
    -- a node with a request is on the working level after de-duplication: it was not pruned, so the scan kept it
    obtain ⟨j, hj, rfl⟩ := List.mem_map.1 (dedupe_level_ids I _ n _ (preTail_ids x hx))
    obtain ⟨hj, hkeep⟩ := List.mem_filter.1 ((Tree.atLevel_prune_sub_filter _ _ n).subset hj)
    rw [Tree.atLevel_setNorm] at hj
    obtain ⟨i, hi, rfl⟩ := List.mem_map.1 hj
    rw [keepP_iff] at hkeep
    rw [(normInfo_relab _ i).id] at hkeep ⊢
    exact scan_kept hstop hi hkeep
  -- the first loop stopped: no request
  all_goals exact List.forall_mem_nil _

/-- the seed itself (working depth 0) -/
theorem requests_in_scope_seed (S : SF) (I : IF) (cfg : Cfg) (norm : String → Option NormRes) (seen : Seen) (i : Info) :
    ∀ x ∈ (preCore S I cfg norm seen (.node i .nil)).2.2.1, ∃ r, norm x = some r ∧ passesFilters cfg r = true := by
  intro x hx
  have hv := verdict_spec cfg norm (.node i .nil) i
  unfold preCore at hx
  simp only [Tree.maxDepth, Tree.atLevel, scan] at hx
  generalize verdict cfg norm (.node i .nil) i = v at hv hx
  cases v with
  | panic => simp at hx
  | stop st => simp at hx
  | remove => cases hv.2  -- `remove` needs a parent
  | keep r =>
    dsimp only at hx
    -- the seed is never pruned
    have h3 := preTail_ids x hx
    rw [dedupe, Tree.atLevel_mark_ids] at h3
    obtain rfl : x = i.id := by simpa [Tree.prune, Tree.setNorm, Tree.atLevel, ids] using h3
    exact ⟨r, hv.2⟩

/-! ### `postAct` in closed form -/

def okPost (S : SF) : Bool :=
  S.redirectStatuses == [300, 301, 302, 303, 307, 308] && S.postOnlyArchived && S.redirectLimitOp == .ge &&
  S.redirectLimitCompletes && S.redirectChildFields && S.depthCutOp == .gt && S.depthCut == 2 && S.depthCutShape &&
  S.depthOneHtmlRule && S.disableAssetsRule == "whenNoHops" && S.only200Extracted && S.assetsBecomeChildren && S.outlinkDomainsCrawlRule &&
  S.outlinksIncludeAssetOutlinks && S.postCompletionRule && S.postWorksAtMaxDepth && S.outlinkHopsOp == .lt &&
  S.outlinkGuardShape && S.outlinkHopsPlusOne && S.assetHopsSame && S.assetOutlinkHopsPlusOne && S.assetSelfDuplicateRemoved &&
  S.assetGuardShape && S.postTestsUnderstood

theorem okPost_ops {S : SF} (h : okPost S = true) :
    S.redirectLimitOp = .ge ∧ S.depthCutOp = .gt ∧ S.depthCut = 2 ∧ S.outlinkHopsOp = .lt := by
  simp only [okPost, Bool.and_eq_true, beq_iff_eq] at h
  simp only [h, and_self]

def redirChild (ex : String → Extract) (i : Info) : Info :=
  { id := ((ex i.id).assets.headD ("", "")).1, url := "", st := .fresh, raw := i.loc, redirects := i.redirects + 1, hops := i.hops }

def postKids (cfg : Cfg) (ex : String → Extract) (i : Info) : List Info :=
  if i.resp == 200 && (!cfg.disableAssets && i.body) then
    ((ex i.id).assets.filter (fun a => a.2 != i.url)).map (fun a => ({ id := a.1, url := "", st := .fresh, raw := a.2, hops := i.hops } : Info))
  else []

def postOuts (S : SF) (cfg : Cfg) (ex : String → Extract) (i : Info) : List Outlink :=
  if i.resp == 200 && ((cfg.domainsCrawl && i.body) || (S.outlinkHopsOp.eval i.hops cfg.maxHops && i.body)) then
    (((ex i.id).outlinks ++ (if !cfg.disableAssets && i.body then (ex i.id).assetOutlinks else [])).filterMap (fun raw =>
      if cfg.domainsCrawl && cfg.dcMatch.contains raw then some { raw := raw, hops := 0, via := i.url }
      else if cfg.domainsCrawl && !(cfg.dcMatch.contains raw) && i.hops ≥ cfg.maxHops then none
      else some { raw := raw, hops := i.hops + 1, via := i.url }))
  else []

/-- what the early tests of `postprocessItem` look at -/
abbrev penv (cfg : Cfg) (i : Info) (dnr : Int) : PEnv :=
  { domainsCrawl := cfg.domainsCrawl, depth := dnr, html := i.html, disableAssets := cfg.disableAssets, maxHops := cfg.maxHops }

theorem ite_chain3 {α : Type} (a b c : Bool) (x y : α) :
    (if a then x else if b then x else if c then x else y) = if (a || b || c) then x else y := by
  cases a
  · cases b <;> rfl
  · rfl

/-- an arm of an `if / else if` chain carries the negations of the arms before it -/
theorem or_chain3 (a b c : Bool) : (a || (!a && b || !a && !b && c)) = (a || b || c) := by
  cases a
  · cases b <;> rfl
  · rfl

/-- the only place where `postAct` is unfolded: a `split` on the unfolded term, with the `filterMap` lambdas in it, is
slow to check -/
theorem postAct_eq (S : SF) (cfg : Cfg) (ex : String → Extract) (i : Info) (dnr : Int) :
    postAct S cfg ex i dnr =
      if isRedirect S i.resp then
        (if S.redirectLimitOp.eval i.redirects cfg.maxRedirect then .complete else .redirect (redirChild ex i))
      else if modelCompletesEarly S (penv cfg i dnr) then .complete
      else .extract (postKids cfg ex i) (postOuts S cfg ex i) := by
  unfold postAct postKids postOuts
  rw [ite_chain3]
  cases i.resp == 200 <;> rfl

theorem postAct_cases (S : SF) (cfg : Cfg) (ex : String → Extract) (i : Info) (dnr : Int) :
    postAct S cfg ex i dnr = .complete ∨
    (S.redirectLimitOp.eval i.redirects cfg.maxRedirect = false ∧ postAct S cfg ex i dnr = .redirect (redirChild ex i)) ∨
    (modelCompletesEarly S (penv cfg i dnr) = false ∧
      postAct S cfg ex i dnr = .extract (postKids cfg ex i) (postOuts S cfg ex i)) := by
  rw [postAct_eq]
  cases isRedirect S i.resp
  · cases modelCompletesEarly S (penv cfg i dnr)
    · exact .inr (.inr ⟨rfl, rfl⟩)
    · exact .inl rfl
  · cases S.redirectLimitOp.eval i.redirects cfg.maxRedirect
    · exact .inr (.inl ⟨rfl, rfl⟩)
    · exact .inl rfl

theorem _root_.Zeno.Model.Scope.postAct_early (S : SF) (cfg : Cfg) (ex : String → Extract) (i : Zeno.Model.Item.Info) (dnr : Int) (hr : isRedirect S i.resp = false)
    (h : modelCompletesEarly S { domainsCrawl := cfg.domainsCrawl, depth := dnr, html := i.html, disableAssets := cfg.disableAssets,
                                 maxHops := cfg.maxHops } = true) :
    postAct S cfg ex i dnr = .complete := by
  rw [postAct_eq, hr, h]
  rfl

theorem mem_postKids {cfg : Cfg} {ex : String → Extract} {i k : Info} (h : k ∈ postKids cfg ex i) :
    k.hops = i.hops ∧ k.redirects = 0 ∧ k.st = .fresh ∧ k.via = false := by
  rw [postKids, List.mem_ite_nil_right] at h
  obtain ⟨a, _, rfl⟩ := List.mem_map.1 h.2
  exact ⟨rfl, rfl, rfl, rfl⟩

theorem mem_postOuts {S : SF} (hop : S.outlinkHopsOp = .lt) {cfg : Cfg} {ex : String → Extract} {i : Info} {o : Outlink}
    (h : o ∈ postOuts S cfg ex i) :
    o.via = i.url ∧
      ((cfg.domainsCrawl = true ∧ o.raw ∈ cfg.dcMatch ∧ o.hops = 0) ∨ (o.hops = i.hops + 1 ∧ i.hops < cfg.maxHops)) := by
  rw [postOuts, List.mem_ite_nil_right, List.mem_filterMap] at h
  obtain ⟨hw, raw, _, hraw⟩ := h
  split at hraw
  · rename_i hm
    cases hraw
    exact ⟨rfl, .inl (by simpa using hm)⟩
  · split at hraw
    · cases hraw
    · rename_i hnm hskip
      cases hraw
      refine ⟨rfl, .inr ⟨rfl, ?_⟩⟩
      -- neither a domains-crawl match nor dropped: the page is below the hop limit
      cases hdc : cfg.domainsCrawl
      · simp only [hdc, hop, Cmp.eval, Bool.false_and, Bool.false_or, Bool.and_eq_true, decide_eq_true_eq] at hw
        exact hw.2.1
      · simp [hdc] at hnm hskip
        exact hskip hnm

theorem early_beyond_depth {S : SF} (hS : okPost S = true) {cfg : Cfg} (hdc : cfg.domainsCrawl = false) {i : Info} {dnr : Int}
    (hd : 2 < dnr) : modelCompletesEarly S (penv cfg i dnr) = true := by
  obtain ⟨_, h2, h3, _⟩ := okPost_ops hS
  simp [modelCompletesEarly, hdc, h2, h3, Cmp.eval, hd]

def leaves : List Info → Forest
  | [] => .nil
  | c :: cs => .cons (.node c .nil) (leaves cs)

theorem Forest.append_nil (f : Forest) : f.append .nil = f := by
  cases f with
  | nil => rfl
  | cons t f => rw [Forest.append, Forest.append_nil f]

theorem Forest.append_assoc (f g h : Forest) : (f.append g).append h = f.append (g.append h) := by
  cases f with
  | nil => rfl
  | cons t f => rw [Forest.append, Forest.append, Forest.append, Forest.append_assoc f g h]

theorem foldl_append_leaves (kids : List Info) (f : Forest) :
    kids.foldl (fun acc c => acc.append (.cons (.node c .nil) .nil)) f = f.append (leaves kids) := by
  induction kids generalizing f with
  | nil => exact (Forest.append_nil f).symm
  | cons c cs ih =>
    simp only [List.foldl_cons, ih, leaves, Forest.append_assoc]
    rfl

theorem Forest.flatten_append (a b : Forest) : (a.append b).flatten = a.flatten ++ b.flatten := by
  cases a with
  | nil => rfl
  | cons t f => rw [Forest.append, Forest.flatten, Forest.flatten, Forest.flatten_append f b, List.append_assoc]

theorem leaves_flatten (kids : List Info) : (leaves kids).flatten = kids := by
  induction kids with
  | nil => rfl
  | cons c cs ih => exact congrArg (c :: ·) ih

def PostAct.kids : PostAct → List Info
  | .complete => []
  | .redirect c => [c]
  | .extract kids _ => kids

def PostAct.outs : PostAct → List Outlink
  | .extract _ outs => outs
  | _ => []

/-- the status a post-processing decision leaves on a node that had `nk` children -/
def PostAct.st (a : PostAct) (nk : Nat) : Status :=
  match a with
  | .complete => .completed
  | .redirect _ => .gotRedirected
  | .extract kids _ => if kids.isEmpty && nk == 0 then .completed else .gotChildren

/-- at `st 0`: both uses are at childless nodes -/
theorem PostAct.st_kids (a : PostAct) :
    a.st 0 ≠ .fresh ∧ (a.st 0 = .gotRedirected → a.kids.length = 1) ∧
      (a.kids ≠ [] → a.st 0 = .gotChildren ∨ a.st 0 = .gotRedirected) := by
  cases a with
  | complete => exact ⟨Status.noConfusion, Status.noConfusion, fun h => absurd rfl h⟩
  | redirect c => exact ⟨Status.noConfusion, fun _ => rfl, fun _ => .inr rfl⟩
  | extract kids outs =>
    cases kids with
    | nil => exact ⟨Status.noConfusion, Status.noConfusion, fun h => absurd rfl h⟩
    | cons c cs => exact ⟨Status.noConfusion, Status.noConfusion, fun _ => .inl rfl⟩

theorem PostAct.st_cases (a : PostAct) (nk : Nat) : a.st nk = .completed ∨ a.st nk = .gotRedirected ∨ a.st nk = .gotChildren := by
  fun_cases PostAct.st a nk
  · exact .inl rfl
  · exact .inr (.inl rfl)
  · exact .inl rfl
  · exact .inr (.inr rfl)

theorem Tree.post_node (S : SF) (cfg : Cfg) (ex : String → Extract) (d lvl : Nat) (pdnr : Int) (isSeed : Bool) (i : Info) (k : Forest) :
    (Tree.node i k).post S cfg ex d lvl pdnr isSeed =
      if lvl == d then
        if i.st == .archived then
          (.node { i with st := (postAct S cfg ex i (nodeDnr isSeed i.st pdnr)).st k.length, body := false }
              (k.append (leaves (postAct S cfg ex i (nodeDnr isSeed i.st pdnr)).kids)),
            (postAct S cfg ex i (nodeDnr isSeed i.st pdnr)).outs)
        else (.node { i with body := false } k, [])
      else (.node { i with body := false } (k.post S cfg ex d (lvl + 1) (nodeDnr isSeed i.st pdnr)).1,
        (k.post S cfg ex d (lvl + 1) (nodeDnr isSeed i.st pdnr)).2) := by
  unfold Tree.post
  cases lvl == d
  · rfl
  · cases i.st == .archived
    · rfl
    · dsimp only [if_true]
      cases postAct S cfg ex i (nodeDnr isSeed i.st pdnr) with
      | complete => simp only [PostAct.st, PostAct.kids, PostAct.outs, leaves, Forest.append_nil]
      | redirect c => rfl
      | extract kids outs => simp only [foldl_append_leaves, PostAct.st, PostAct.kids, PostAct.outs]

theorem postAct_kids_fresh (S : SF) (cfg : Cfg) (ex : String → Extract) (i : Info) (dnr : Int) :
    ∀ c ∈ (postAct S cfg ex i dnr).kids, c.st = .fresh ∧ c.via = false ∧ c.hops = i.hops := by
  rcases postAct_cases S cfg ex i dnr with e | ⟨_, e⟩ | ⟨_, e⟩ <;> rw [e]
  · exact List.forall_mem_nil _
  · exact List.forall_mem_singleton.2 ⟨rfl, rfl, rfl⟩
  · intro c hc
    obtain ⟨h1, _, h3, h4⟩ := mem_postKids hc
    exact ⟨h3, h4, h1⟩

/-- **the new children**: a redirect target continues its parent's chain, below the limit; an asset starts a new one,
and only down to depth 2 when domains-crawl is off -/
theorem postAct_kids (S : SF) (hS : okPost S = true) (cfg : Cfg) (ex : String → Extract) (i : Info) (dnr : Int) (nk : Nat) :
    ∀ c ∈ (postAct S cfg ex i dnr).kids, c.st = .fresh ∧ c.via = false ∧ c.hops = i.hops ∧
      (((postAct S cfg ex i dnr).st nk = .gotRedirected ∧ c.redirects = i.redirects + 1 ∧ c.redirects ≤ cfg.maxRedirect) ∨
       ((postAct S cfg ex i dnr).st nk ≠ .gotRedirected ∧ c.redirects = 0 ∧ (cfg.domainsCrawl = false → dnr ≤ 2))) := by
  rcases postAct_cases S cfg ex i dnr with e | ⟨hl, e⟩ | ⟨he, e⟩ <;> rw [e]
  · exact List.forall_mem_nil _
  · have hlt : i.redirects < cfg.maxRedirect := by simpa [(okPost_ops hS).1, Cmp.eval] using hl
    exact List.forall_mem_singleton.2 ⟨rfl, rfl, rfl, .inl ⟨rfl, rfl, hlt⟩⟩
  · intro c hc
    obtain ⟨h1, h2, h3, h4⟩ := mem_postKids hc
    refine ⟨h3, h4, h1, .inr ⟨?_, h2, fun hdc => Int.not_lt.1 fun hd => ?_⟩⟩
    · simp only [PostAct.st]
      split <;> nofun
    · rw [early_beyond_depth hS hdc hd] at he
      cases he

/-! ### the bounds on the work per seed (C06) -/

theorem redirect_child (S : SF) (hS : okPost S = true) (cfg : Cfg) (ex : String → Extract) (i : Info) (dnr : Int) (c : Info)
    (h : postAct S cfg ex i dnr = .redirect c) :
    i.redirects < cfg.maxRedirect ∧ c.redirects = i.redirects + 1 ∧ c.redirects ≤ cfg.maxRedirect ∧ c.hops = i.hops := by
  have hc := postAct_kids S hS cfg ex i dnr 0 c
  rw [h] at hc
  obtain ⟨_, _, hh, ⟨_, h1, h2⟩ | ⟨hn, _⟩⟩ := hc (List.mem_singleton_self c)
  · exact ⟨Nat.lt_of_add_one_le (h1 ▸ h2), h1, h2, hh⟩
  · exact absurd rfl hn

theorem no_extraction_beyond_depth (S : SF) (hS : okPost S = true) (cfg : Cfg) (ex : String → Extract) (i : Info) (dnr : Int)
    (hdc : cfg.domainsCrawl = false) (hd : 2 < dnr) :
    postAct S cfg ex i dnr = .complete ∨ ∃ c, postAct S cfg ex i dnr = .redirect c := by
  rcases postAct_cases S cfg ex i dnr with e | ⟨_, e⟩ | ⟨he, _⟩
  · exact .inl e
  · exact .inr ⟨_, e⟩
  · rw [early_beyond_depth hS hdc hd] at he
    cases he

theorem extraction_hops (S : SF) (hS : okPost S = true) (cfg : Cfg) (ex : String → Extract) (i : Info) (dnr : Int)
    (kids : List Info) (outs : List Outlink) (h : postAct S cfg ex i dnr = .extract kids outs) :
    (∀ k ∈ kids, k.hops = i.hops ∧ k.redirects = 0) ∧
    (∀ o ∈ outs, o.via = i.url ∧
      ((cfg.domainsCrawl = true ∧ o.raw ∈ cfg.dcMatch ∧ o.hops = 0) ∨ (o.hops = i.hops + 1 ∧ i.hops < cfg.maxHops))) := by
  rcases postAct_cases S cfg ex i dnr with e | ⟨_, e⟩ | ⟨_, e⟩ <;> rw [e] at h <;> cases h
  exact ⟨fun k hk => (mem_postKids hk).imp_right And.left, fun _ => mem_postOuts (okPost_ops hS).2.2.2⟩

/-- what C06 bounds per node: redirects behind it, and the seed's hop count -/
def Bounded (cfg : Cfg) (hops : Nat) (j : Info) : Prop := j.redirects ≤ cfg.maxRedirect ∧ j.hops = hops

mutual
theorem Tree.post_bounded (S : SF) (hS : okPost S = true) (cfg : Cfg) (ex : String → Extract) (hops d lvl : Nat) (pdnr : Int)
    (isSeed : Bool) (t : Tree) (h : ∀ j ∈ t.flatten, Bounded cfg hops j) :
    ∀ j ∈ (t.post S cfg ex d lvl pdnr isSeed).1.flatten, Bounded cfg hops j := by
  cases t with
  | node i k =>
    obtain ⟨hi, hk⟩ := List.forall_mem_cons.1 h
    rw [Tree.post_node]
    -- by cases on the two tests: `split` on this term is slow
    cases lvl == d
    · exact List.forall_mem_cons.2 ⟨hi, Forest.post_bounded S hS cfg ex hops d (lvl + 1) _ k hk⟩
    · cases i.st == .archived
      · exact List.forall_mem_cons.2 ⟨hi, hk⟩
      · simp only [if_true, Tree.flatten, Forest.flatten_append, leaves_flatten, List.forall_mem_cons, List.forall_mem_append]
        refine ⟨hi, hk, fun c hc => ?_⟩
        -- a redirect target is within the limit, an asset has no redirects behind it
        obtain ⟨_, _, h3, ⟨_, _, h4⟩ | ⟨_, h4, _⟩⟩ := postAct_kids S hS cfg ex i _ k.length c hc
        · exact ⟨h4, h3.trans hi.2⟩
        · exact ⟨h4 ▸ Nat.zero_le _, h3.trans hi.2⟩
theorem Forest.post_bounded (S : SF) (hS : okPost S = true) (cfg : Cfg) (ex : String → Extract) (hops d lvl : Nat) (pdnr : Int)
    (f : Forest) (h : ∀ j ∈ f.flatten, Bounded cfg hops j) :
    ∀ j ∈ (f.post S cfg ex d lvl pdnr).1.flatten, Bounded cfg hops j := by
  cases f with
  | nil => exact h
  | cons t f =>
    rw [Forest.post]
    exact List.forall_mem_append.2 ((List.forall_mem_append.1 h).imp (Tree.post_bounded S hS cfg ex hops d lvl pdnr false t)
      (Forest.post_bounded S hS cfg ex hops d lvl pdnr f))
end

theorem postprocess_bounded (S : SF) (hS : okPost S = true) (cfg : Cfg) (ex : String → Extract) (hops : Nat) (t : Tree)
    (h : ∀ j ∈ t.flatten, Bounded cfg hops j) : ∀ j ∈ (postprocess S cfg ex t).1.flatten, Bounded cfg hops j :=
  Tree.post_bounded S hS cfg ex hops _ _ _ _ t h

mutual
theorem Tree.post_closes (S : SF) (cfg : Cfg) (ex : String → Extract) (d lvl : Nat) (pdnr : Int) (isSeed : Bool) (t : Tree) (n : Nat)
    (hn : lvl + n ≤ d) : ∀ i ∈ ((t.post S cfg ex d lvl pdnr isSeed).1).atLevel n, i.body = false := by
  cases t with
  | node i k =>
    rw [Tree.post_node]
    cases n with
    | zero =>
      cases lvl == d
      · exact List.forall_mem_singleton.2 rfl
      · cases i.st == .archived <;> exact List.forall_mem_singleton.2 rfl
    | succ n =>
      rw [show (lvl == d) = false from beq_eq_false_iff_ne.2 (by omega)]
      exact Forest.post_closes S cfg ex d (lvl + 1) _ k n (Nat.succ_add_eq_add_succ lvl n ▸ hn)
theorem Forest.post_closes (S : SF) (cfg : Cfg) (ex : String → Extract) (d lvl : Nat) (pdnr : Int) (f : Forest) (n : Nat)
    (hn : lvl + n ≤ d) : ∀ i ∈ ((f.post S cfg ex d lvl pdnr).1).atLevel n, i.body = false := by
  cases f with
  | nil => exact List.forall_mem_nil _
  | cons t f =>
    rw [Forest.post]
    exact List.forall_mem_append.2 ⟨Tree.post_closes S cfg ex d lvl pdnr false t n hn, Forest.post_closes S cfg ex d lvl pdnr f n hn⟩
end

/-- `postprocess` ends with `closeBodies`: no node down to the working depth still holds its response body -/
theorem postprocess_closes_bodies (S : SF) (cfg : Cfg) (ex : String → Extract) (t : Tree) (n : Nat) (hn : n ≤ t.maxDepth) :
    ∀ i ∈ ((postprocess S cfg ex t).1).atLevel n, i.body = false :=
  Tree.post_closes S cfg ex t.maxDepth 0 0 true t n ((Nat.zero_add n).symm ▸ hn)

/-! ### the tree `preprocess` hands on -/

theorem preTail_seen_not_requested (S : SF) (cfg : Cfg) (seen : Seen) (t2 : Tree) (d : Nat) (hq : cfg.useHQ = false)
    (hs : cfg.useSeencheck = true) :
    ∀ x ∈ (preTail S cfg seen t2 d).2.2.1, x ∉ (seencheck t2 (t2.atLevel d) seen).2 := by
  intro x hx
  have := (mem_finalStep (mem_preTail hx)).1
  rwa [storeAnswer, hq, hs] at this

theorem storeAnswer_ids (S : SF) (cfg : Cfg) (seen : Seen) (t2 : Tree) (d : Nat) :
    ∀ x ∈ (storeAnswer S cfg seen t2 d).2, ∃ i ∈ t2.atLevel d, i.id = x := by
  fun_cases storeAnswer S cfg seen t2 d
  · fun_cases hqSeencheck S t2 (t2.atLevel d) seen
    · exact List.forall_mem_nil _
    · exact List.forall_mem_map.2 fun i hi => ⟨i, (List.mem_filter.1 hi).1, rfl⟩
  · exact fun x hx => (scFold_ids t2 _ _ x hx).resolve_left List.not_mem_nil
  · exact List.forall_mem_nil _

mutual
theorem Tree.setStatuses_nil (s : Status) (rq : Bool) (t : Tree) : t.setStatuses [] s rq = t := by
  cases t with
  | node i k =>
    rw [Tree.setStatuses, Forest.setStatuses_nil s rq k]
    rfl
theorem Forest.setStatuses_nil (s : Status) (rq : Bool) (f : Forest) : f.setStatuses [] s rq = f := by
  cases f with
  | nil => rfl
  | cons t f => rw [Forest.setStatuses, Tree.setStatuses_nil s rq t, Forest.setStatuses_nil s rq f]
end

/-- the tree `preprocess` hands on when the seen-store has reported `seenIds` on the working level `d` -/
def requested (t2 : Tree) (seenIds : List String) (d : Nat) : Tree :=
  let t3 := t2.setStatuses seenIds .seen false
  let fresh := (t3.atLevel d).filter (fun i => i.st == .fresh)
  if fresh = [] then setRoot t3 .completed else t3.setStatuses (fresh.map (·.id)) .preProcessed true

theorem requested_cases (t2 : Tree) (l : List String) (d : Nat) :
    let t3 := t2.setStatuses l .seen false
    let fresh := (t3.atLevel d).filter (fun i => i.st == .fresh)
    (fresh = [] ∧ requested t2 l d = setRoot t3 .completed) ∨
    (fresh ≠ [] ∧ requested t2 l d = t3.setStatuses (fresh.map (·.id)) .preProcessed true) := by
  intro t3 fresh
  by_cases h : fresh = []
  · exact .inl ⟨h, if_pos h⟩
  · exact .inr ⟨h, if_neg h⟩

/-- how `preprocess` turns the result of `preCore` into its tree -/
abbrev preDone (c : Tree × Seen × List String × PreOut) : Tree :=
  if c.2.2.1.isEmpty then c.1 else c.1.setStatuses c.2.2.1 .preProcessed true

theorem preDone_finalStep (t2 : Tree) (sr : Seen × List String) (d : Nat) :
    (finalStep t2 sr d).2.2.2 = .ok ∧ preDone (finalStep t2 sr d) = requested t2 sr.2 d := by
  rcases requested_cases t2 sr.2 d with ⟨h, e⟩ | ⟨h, e⟩ <;> rw [e] <;> simp [finalStep, preDone, h]

/-- `hg`: seencheck guarded by the configuration, as in the source -/
theorem preTail_requested (S : SF) (hg : (S.preSeencheckGuard == "always") = false) (cfg : Cfg) (seen : Seen) (t2 : Tree) (d : Nat) :
    (preTail S cfg seen t2 d).2.2.2 = .ok ∧
      ∃ l, (∀ x ∈ l, ∃ i ∈ t2.atLevel d, i.id = x) ∧ preDone (preTail S cfg seen t2 d) = requested t2 l d := by
  have e := preTail_eq S cfg seen t2 d
  rw [hg, Bool.and_false, Bool.false_and, if_neg Bool.false_ne_true] at e
  split at e <;> rw [e]
  · rename_i hemp
    refine ⟨rfl, [], nofun, ?_⟩
    rw [requested, Tree.setStatuses_nil, List.isEmpty_iff.1 hemp]
    rfl
  · exact ⟨(preDone_finalStep ..).1, _, storeAnswer_ids S cfg seen t2 d, (preDone_finalStep ..).2⟩

end Zeno.Model.Stages
