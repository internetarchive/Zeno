import Zeno.Model.Flow
/-! No wedge in the flow of items through the bounded channels and worker pools. -/
namespace Zeno.Model.Flow

structure Inv (c : Cfg) (s : S) : Prop where
  acct : s.seeds = s.used
  bound : s.used ≤ c.tokens
  run1 : s.r ≤ 1

theorem inv_init (c : Cfg) : Inv c {} := ⟨rfl, Nat.zero_le _, Nat.zero_le _⟩

theorem move {x n y : Nat} (h : 0 < x) : n + (x - 1) + (y + 1) = n + x + y := by
  rw [Nat.add_add_add_comm, Nat.sub_add_cancel h, Nat.add_right_comm]

theorem inv_step {c : Cfg} {s s' : S} {a : Act} (h : Inv c s) (hs : step c s a = some s') : Inv c s' := by
  obtain ⟨h1, h2, h3⟩ := h
  cases a <;> obtain ⟨hc, rfl⟩ := Option.ite_some_none_eq_some.1 hs
  case postOutlink | finTakeOutlink | finProduce | srcAck | srcNew => exact ⟨h1, h2, h3⟩
  case preTake | preSend | archTake | archSend | postTake | postSend | finTakeSeed =>
    exact ⟨by simp only [S.seeds, move hc.1]; exact h1, h2, h3⟩
  case insert => exact ⟨by simpa +arith only [S.seeds] using h1, hc.1, h3⟩
  case finFinish => exact ⟨(Nat.add_sub_assoc hc.1 _).symm.trans (congrArg (· - 1) h1), Nat.le_trans (Nat.sub_le _ _) h2, h3⟩
  -- not of the `move` shape: `r` is set to 1 or 0, and a feedback takes its seed from the last summand back to the first.
  -- Goal and `h1` are brought to one form by rewriting: `omega` on the ten summands is several times dearer
  case runTake => exact ⟨by simpa only [S.seeds, hc.2, Nat.add_zero, Nat.sub_add_cancel hc.1] using h1, h2, Nat.le_refl 1⟩
  case runSend => exact ⟨by simpa +arith only [S.seeds, hc.1] using h1, h2, Nat.zero_le 1⟩
  case finFeedback =>
    obtain ⟨m, hm⟩ := Nat.exists_eq_add_one.2 hc.1
    exact ⟨by simpa +arith only [S.seeds, hm, Nat.add_sub_cancel] using h1, h2, h3⟩

theorem inv_run (c : Cfg) (acts : List Act) (s : S) (h : Inv c s) : Inv c (run c s acts) :=
  List.foldlRecOn acts _ h fun s h a _ => by
    cases hs : step c s a with
    | none => exact h
    | some s' => exact inv_step h hs

/-- **The finisher's feedback never blocks**: a finisher worker that holds a seed finds room in the reactor's input. -/
theorem feedback_enabled (c : Cfg) (s : S) (h : Inv c s) (hf : 0 < s.fs) : (step c s .finFeedback).isSome = true := by
  refine Option.isSome_ite.2 ⟨hf, ?_⟩
  calc s.q < s.q + s.fs := Nat.lt_add_of_pos_right hf
    _ ≤ s.seeds := by simp +arith only [S.seeds]
    _ ≤ c.tokens := h.acct ▸ h.bound

/-- **No wedge.** While anything is left in the pipeline, a step other than an insert can be taken. -/
theorem progress (c : Cfg) (hcap : 1 ≤ c.cap) (hw : 1 ≤ c.workers) (s : S) (h : Inv c s) (hb : s.busy = true) :
    ∃ a, a ≠ Act.insert ∧ (step c s a).isSome = true := by
  -- the item nearest to the exit can move: every place after it is empty
  obtain e1 | e1 := (Nat.eq_zero_or_pos s.cF).symm
  · exact ⟨.srcAck, by decide, Option.isSome_ite.2 e1⟩
  obtain e2 | e2 := (Nat.eq_zero_or_pos s.cP).symm
  · exact ⟨.srcNew, by decide, Option.isSome_ite.2 e2⟩
  obtain e3 | e3 := (Nat.eq_zero_or_pos s.fo).symm
  · exact ⟨.finProduce, by decide, Option.isSome_ite.2 ⟨e3, e2 ▸ hcap⟩⟩
  obtain e4 | e4 := (Nat.eq_zero_or_pos s.fs).symm
  · exact ⟨.finFeedback, by decide, feedback_enabled c s h e4⟩
  obtain e5 | e5 := (Nat.eq_zero_or_pos s.c3o).symm
  · exact ⟨.finTakeOutlink, by decide, Option.isSome_ite.2 ⟨e5, by rw [e4, e3]; exact hw⟩⟩
  obtain e6 | e6 := (Nat.eq_zero_or_pos s.c3s).symm
  · exact ⟨.finTakeSeed, by decide, Option.isSome_ite.2 ⟨e6, by rw [e4, e3]; exact hw⟩⟩
  obtain e7 | e7 := (Nat.eq_zero_or_pos s.po).symm
  · exact ⟨.postSend, by decide, Option.isSome_ite.2 ⟨e7, by rw [e6, e5]; exact hcap⟩⟩
  obtain e8 | e8 := (Nat.eq_zero_or_pos s.c2).symm
  · exact ⟨.postTake, by decide, Option.isSome_ite.2 ⟨e8, e7 ▸ hw⟩⟩
  obtain e9 | e9 := (Nat.eq_zero_or_pos s.a).symm
  · exact ⟨.archSend, by decide, Option.isSome_ite.2 ⟨e9, e8 ▸ hcap⟩⟩
  obtain e10 | e10 := (Nat.eq_zero_or_pos s.c1).symm
  · exact ⟨.archTake, by decide, Option.isSome_ite.2 ⟨e10, e9 ▸ hw⟩⟩
  obtain e11 | e11 := (Nat.eq_zero_or_pos s.p).symm
  · exact ⟨.preSend, by decide, Option.isSome_ite.2 ⟨e11, e10 ▸ hcap⟩⟩
  obtain e12 | e12 := (Nat.eq_zero_or_pos s.c0).symm
  · exact ⟨.preTake, by decide, Option.isSome_ite.2 ⟨e12, e11 ▸ hw⟩⟩
  obtain e13 | e13 := (Nat.eq_zero_or_pos s.r).symm
  · exact ⟨.runSend, by decide, Option.isSome_ite.2 ⟨Nat.le_antisymm h.run1 e13, e12 ▸ hcap⟩⟩
  simp only [S.busy, S.seeds, *, Nat.add_zero, decide_eq_true_eq] at hb
  exact ⟨.runTake, by decide, Option.isSome_ite.2 ⟨hb, e13⟩⟩

/-- the work left, weighted by the distance to the exit: falls with every step except an insert, a feedback (bounded
per seed by `c06_seed_finishes_within`) and the hand-over of an outlink, which makes a new item -/
def S.weight (s : S) : Nat :=
  14 * s.q + 13 * s.r + 12 * s.c0 + 11 * s.p + 10 * s.c1 + 9 * s.a + 8 * s.c2 + 7 * s.po + 4 * s.c3s + 4 * s.c3o + 3 * s.fs + 3 * s.fo +
    s.cF + s.cP

/-- seeds' path first, then the outlinks': every step is a move to the neighbour or off the end of a path -/
theorem weight_eq (s : S) : s.weight =
    14 * s.q + 13 * s.r + 12 * s.c0 + 11 * s.p + 10 * s.c1 + 9 * s.a + 8 * s.c2 + 7 * s.po + 4 * s.c3s + 3 * s.fs + 1 * s.cF +
      4 * s.c3o + 3 * s.fo + 1 * s.cP := by
  simp +arith only [S.weight]

theorem move_lt {x a b n y : Nat} (h : 0 < x) (hab : b < a) : n + a * (x - 1) + b * (y + 1) < n + a * x + b * y := by
  obtain ⟨m, rfl⟩ := Nat.exists_eq_add_one.2 h
  simp +arith only [Nat.add_sub_cancel, Nat.mul_add, Nat.mul_one]
  exact hab

theorem weight_decreases (c : Cfg) (s s' : S) (a : Act) (hs : step c s a = some s')
    (ha : a ≠ .insert ∧ a ≠ .finFeedback ∧ a ≠ .postOutlink) : s'.weight < s.weight := by
  obtain ⟨ha1, ha2, ha3⟩ := ha
  cases a
  case insert | finFeedback | postOutlink => contradiction
  all_goals obtain ⟨hc, rfl⟩ := Option.ite_some_none_eq_some.1 hs
  all_goals simp only [weight_eq, Nat.add_lt_add_iff_right]
  case runTake => omega
  case runSend => simp +arith only [hc.1]
  case srcAck | srcNew => simpa only [Nat.add_lt_add_iff_left, Nat.one_mul] using Nat.sub_one_lt_of_lt hc
  all_goals exact move_lt hc.1 (by decide)

end Zeno.Model.Flow
